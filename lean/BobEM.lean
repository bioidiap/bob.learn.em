import BobEM.Model.Basic
import BobEM.Model.Gmm
import BobEM.Model.Loop
import BobEM.Model.KMeans
import BobEM.Model.Tree
import BobEM.Model.FA
import BobEM.Model.FATrain
import BobEM.Model.IVector
import BobEM.Model.GmmState
import BobEM.Model.Hdf5
import BobEM.Model.LinearScoring
import BobEM.Model.Linear
import BobEM.Model.Own
import BobEM.Model.Rng
import BobEM.Model.Sched
import BobEM.Model.Regroup
import BobEM.Lemmas.Real
import BobEM.Lemmas.RealLinAlg
import BobEM.Lemmas.GmmEM
import BobEM.Lemmas.GmmDensity
import BobEM.Lemmas.Integral
import BobEM.Lemmas.Loop
import BobEM.Lemmas.Tree
import BobEM.Lemmas.Sched
import BobEM.Lemmas.Iso
import BobEM.Lemmas.LogDet
import BobEM.Lemmas.Quad
import BobEM.Lemmas.LinGauss
import BobEM.Lemmas.LinGaussSigma
import BobEM.Lemmas.Deriv
import BobEM.Lemmas.KMeansDescent
import BobEM.Lemmas.FAIdent
import BobEM.Lemmas.FATrainIdent
import BobEM.Lemmas.IVectorIdent
import BobEM.Lemmas.BlockMax
import BobEM.Lemmas.EnrollMode
import BobEM.Lemmas.FABlocks
import BobEM.Lemmas.FAPerm
import BobEM.Lemmas.Fold
import BobEM.Lemmas.GaussSeidel
import BobEM.Lemmas.KMeansSim
import BobEM.Lemmas.MapEM
import BobEM.Lemmas.Relabel
import BobEM.Lemmas.SumDag
import BobEM.Props.C01
import BobEM.Props.C02
import BobEM.Props.C03
import BobEM.Props.C05
import BobEM.Props.C06
import BobEM.Props.C20
import BobEM.Props.C17
import BobEM.Props.C18
import BobEM.Props.C08
import BobEM.Props.C14
import BobEM.Props.C11
import BobEM.Props.C07
import BobEM.Props.C13
import BobEM.Props.C19
import BobEM.Props.C16
import BobEM.Props.C04
import BobEM.Props.C09
import BobEM.Props.C10
import BobEM.Props.C12
import BobEM.Props.C15
