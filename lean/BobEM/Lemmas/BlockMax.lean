import BobEM.Lemmas.LinGauss
import BobEM.Lemmas.GaussSeidel

/-! Maximisation of one block of a linear-Gaussian log-posterior (the enrolment updates,
C07): with loading rows `a k`, counts `n k ≥ 0`, variances `s k > 0`, centred data `g k` and fixed
offsets `r k`, the function
`θ ↦ −½ θ·θ + Σ_k [ g_k (a_k·θ + r_k) − ½ n_k (a_k·θ + r_k)² ] / s_k`
is maximised at `θ* = (I + Σ_k (n_k/s_k) a_k a_kᵀ)⁻¹ Σ_k ((g_k − n_k r_k)/s_k) a_k`, and a sweep of exact maximisations
over three blocks of coordinates contracts the gap to any point (`gs3_contraction`, from `IsQuad.gs3`). -/

open Matrix

variable {ρ κ : Type} [Fintype ρ] [DecidableEq ρ] [Fintype κ]

noncomputable def blockObj (a : κ → ρ → ℝ) (n g r s : κ → ℝ) (θ : ρ → ℝ) : ℝ :=
  -(1/2 : ℝ) * (θ ⬝ᵥ θ)
    + ∑ k, (g k * (a k ⬝ᵥ θ + r k) - (1/2 : ℝ) * (n k * ((a k ⬝ᵥ θ + r k) * (a k ⬝ᵥ θ + r k)))) / s k

noncomputable def blockP (a : κ → ρ → ℝ) (n s : κ → ℝ) : Matrix ρ ρ ℝ := Pmat (ι := Unit) (fun _ => n) s a ()
noncomputable def blockB (a : κ → ρ → ℝ) (n g r s : κ → ℝ) : ρ → ℝ := bvec (ι := Unit) (fun _ k => g k - n k * r k) s a ()

theorem blockObj_expand (a : κ → ρ → ℝ) (n g r s : κ → ℝ) (θ : ρ → ℝ) :
    blockObj a n g r s θ
      = blockObj a n g r s 0 + (blockB a n g r s ⬝ᵥ θ - (1/2 : ℝ) * (θ ⬝ᵥ (blockP a n s *ᵥ θ))) := by
  unfold blockObj blockB blockP bvec Pmat
  rw [dot_sum_smul, quad_one_add_sum]
  simp only [dotProduct_zero, zero_add, mul_zero]
  have : ∀ k, (g k * (a k ⬝ᵥ θ + r k) - 1 / 2 * (n k * ((a k ⬝ᵥ θ + r k) * (a k ⬝ᵥ θ + r k)))) / s k
      = (g k * r k - 1 / 2 * (n k * (r k * r k))) / s k + (g k - n k * r k) / s k * (a k ⬝ᵥ θ)
        - 1 / 2 * (n k / s k * ((a k ⬝ᵥ θ) * (a k ⬝ᵥ θ))) := by
    intro k; ring
  simp only [this, Finset.sum_add_distrib, Finset.sum_sub_distrib, ← Finset.mul_sum]
  ring

theorem blockP_posDef (a : κ → ρ → ℝ) (n s : κ → ℝ) (hn : ∀ k, 0 ≤ n k) (hs : ∀ k, 0 < s k) : (blockP a n s).PosDef :=
  Pmat_posDef (ι := Unit) (fun _ => n) s (fun _ k => hn k) hs a ()

theorem blockP_ge_one (a : κ → ρ → ℝ) (n s : κ → ℝ) (hn : ∀ k, 0 ≤ n k) (hs : ∀ k, 0 < s k) (v : ρ → ℝ) :
    v ⬝ᵥ v ≤ v ⬝ᵥ (blockP a n s *ᵥ v) := by
  unfold blockP Pmat
  rw [quad_one_add_sum]
  have : 0 ≤ ∑ k, n k / s k * ((a k ⬝ᵥ v) * (a k ⬝ᵥ v)) :=
    Finset.sum_nonneg fun k _ => mul_nonneg (div_nonneg (hn k) (hs k).le) (mul_self_nonneg _)
  linarith

theorem blockObj_isQuad (a : κ → ρ → ℝ) (n g r s : κ → ℝ) :
    IsQuad (blockObj a n g r s) (blockP a n s) (blockB a n g r s) :=
  isQuad_of_expand (Pmat_isHermitian ..) _ (blockObj_expand a n g r s)

/-- the block update is the maximiser -/
theorem block_max (a : κ → ρ → ℝ) (n g r s : κ → ℝ) (hn : ∀ k, 0 ≤ n k) (hs : ∀ k, 0 < s k) (θ : ρ → ℝ) :
    blockObj a n g r s θ ≤ blockObj a n g r s ((blockP a n s)⁻¹ *ᵥ blockB a n g r s) :=
  (blockObj_isQuad a n g r s).le_of_grad_zero (blockP_posDef a n s hn hs).posSemidef
    (grad_argmax (blockP_posDef a n s hn hs) _) θ
#print axioms block_max

section
variable (a : κ → ρ → ℝ) (n g r s : κ → ℝ)

/-- gradient of the block objective -/
noncomputable def bGrad (θ : ρ → ℝ) : ρ → ℝ := blockB a n g r s - blockP a n s *ᵥ θ

theorem bGrad_apply (θ : ρ → ℝ) (j : ρ) :
    bGrad a n g r s θ j = ∑ k, a k j * ((g k - n k * (a k ⬝ᵥ θ + r k)) / s k) - θ j := by
  simp only [bGrad, blockB, blockP, bvec, Pmat, Matrix.add_mulVec, Matrix.one_mulVec, Matrix.sum_mulVec,
    Matrix.smul_mulVec, vecMulVec_mulVec, Pi.sub_apply, Pi.add_apply, Finset.sum_apply, Pi.smul_apply,
    MulOpposite.smul_eq_mul_unop, MulOpposite.unop_op, smul_eq_mul]
  rw [sub_add_eq_sub_sub, sub_right_comm, ← Finset.sum_sub_distrib]
  exact congrArg (· - θ j) (Finset.sum_congr rfl fun k _ => by ring)
end

section
variable {α β γ : Type} [Fintype α] [Fintype β] [Fintype γ] [DecidableEq α] [DecidableEq β] [DecidableEq γ]
variable (a : κ → (α ⊕ (β ⊕ γ)) → ℝ) (n g r s : κ → ℝ)

/-- **one sweep of three exact block maximisations contracts the gap** -/
theorem gs3_contraction (hn : ∀ k, 0 ≤ n k) (hs : ∀ k, 0 < s k)
    (θs θ₀ Δ₁ Δ₂ Δ₃ : (α ⊕ (β ⊕ γ)) → ℝ)
    (hs1 : ∀ j, Δ₁ (.inr j) = 0) (hs2 : (∀ i, Δ₂ (.inl i) = 0) ∧ ∀ k, Δ₂ (.inr (.inr k)) = 0)
    (hs3 : (∀ i, Δ₃ (.inl i) = 0) ∧ ∀ j, Δ₃ (.inr (.inl j)) = 0)
    (hg1 : ∀ i, bGrad a n g r s (θ₀ + Δ₁) (.inl i) = 0)
    (hg2 : ∀ j, bGrad a n g r s (θ₀ + Δ₁ + Δ₂) (.inr (.inl j)) = 0)
    (hg3 : ∀ k, bGrad a n g r s (θ₀ + Δ₁ + Δ₂ + Δ₃) (.inr (.inr k)) = 0) :
    blockObj a n g r s θs - blockObj a n g r s (θ₀ + Δ₁ + Δ₂ + Δ₃)
      ≤ (1 - 1 / (6 * frob2 (blockP a n s) + 1)) * (blockObj a n g r s θs - blockObj a n g r s θ₀) := by
  refine (blockObj_isQuad a n g r s).gs3 (blockP_ge_one a n s hn hs) θs θ₀ Δ₁ Δ₂ Δ₃
    (dot_eq_zero_of_coord _ _ ?_) (dot_eq_zero_of_coord _ _ ?_) (dot_eq_zero_of_coord _ _ ?_) ?_
  · rintro (i | j); exacts [.inl (hg1 i), .inr (hs1 j)]
  · rintro (i | j | k); exacts [.inr (hs2.1 i), .inl (hg2 j), .inr (hs2.2 k)]
  · rintro (i | j | k); exacts [.inr (hs3.1 i), .inr (hs3.2 j), .inl (hg3 k)]
  · rintro (i | j | k); exacts [.inl (hg1 i), .inr (.inl (hg2 j)), .inr (.inr (hg3 k))]
#print axioms gs3_contraction
end
