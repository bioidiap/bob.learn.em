import BobEM.Lemmas.Real
import Mathlib.Probability.Distributions.Gaussian.Real

open BobEM ProbabilityTheory
open scoped NNReal

variable {C D : ℕ}

theorem log_gaussianPDFReal (μ x : ℝ) (v : ℝ≥0) (hv : v ≠ 0) :
    Real.log (gaussianPDFReal μ v x)
      = -(1/2 : ℝ) * (Real.log (2 * Real.pi) + Real.log v + (x - μ) * (x - μ) / v) := by
  have hv' : (0:ℝ) < v := by exact_mod_cast pos_iff_ne_zero.mpr hv
  unfold gaussianPDFReal
  have h2pi : (0:ℝ) < 2 * Real.pi := by positivity
  rw [Real.log_mul (by positivity) (Real.exp_pos _).ne', Real.log_exp, Real.log_inv,
    Real.log_sqrt (by positivity), Real.log_mul h2pi.ne' hv'.ne']
  ring

theorem exp_lwl_eq (p : Params C D ℝ) (x : Fin D → ℝ)
    (v : Fin C → Fin D → ℝ≥0) (hvne : ∀ c d, v c d ≠ 0) (hv : ∀ c d, p.variances c d = v c d)
    (hw : ∀ c, 0 < p.weights c) (c : Fin C) :
    Real.exp (lwl p x c) = p.weights c * ∏ d, gaussianPDFReal (p.means c d) (v c d) (x d) := by
  have hpos : ∀ d, 0 < gaussianPDFReal (p.means c d) (v c d) (x d) :=
    fun d => gaussianPDFReal_pos _ _ _ (hvne c d)
  have hprod : 0 < ∏ d, gaussianPDFReal (p.means c d) (v c d) (x d) :=
    Finset.prod_pos fun d _ => hpos d
  rw [← Real.exp_log (mul_pos (hw c) hprod), Real.log_mul (hw c).ne' hprod.ne',
    Real.log_prod (fun d _ => (hpos d).ne')]
  congr 1
  unfold lwl gNorm
  simp only [sumFin_eq, Transc.log, Transc.pi, hv]
  simp only [log_gaussianPDFReal _ _ _ (hvne c _)]
  rw [← Finset.mul_sum, Finset.sum_add_distrib, Finset.sum_add_distrib]

theorem exp_logLik_eq (p : Params (C+1) D ℝ) (x : Fin D → ℝ)
    (v : Fin (C+1) → Fin D → ℝ≥0) (hvne : ∀ c d, v c d ≠ 0) (hv : ∀ c d, p.variances c d = v c d)
    (hw : ∀ c, 0 < p.weights c) :
    Real.exp (logLik p x) = ∑ c, p.weights c * ∏ d, gaussianPDFReal (p.means c d) (v c d) (x d) := by
  rw [logLik_eq, Real.exp_log (sum_exp_pos _)]
  exact Finset.sum_congr rfl fun c _ => exp_lwl_eq p x v hvne hv hw c
