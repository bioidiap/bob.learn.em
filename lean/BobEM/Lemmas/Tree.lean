import BobEM.Model.Tree
import Mathlib.Algebra.BigOperators.Group.List.Basic
import Mathlib.Tactic

/-! Lengths are compared with `≤` only (`… ≤ c ↔ …`): ceiling division enters through its adjunction with
multiplication, the closed form `⌈n / 2^k⌉` appears once, in `treeReduce_levels`. -/

open BobEM

section
variable {σ : Type} (add : σ → σ → σ)

theorem treeLevel_length_le_iff (l : List σ) (c : ℕ) : (treeLevel add l).length ≤ c ↔ l.length ≤ 2 * c := by
  have h2 : 2 * (l.length / 2) ≤ l.length := Nat.mul_div_le _ 2
  have h3 : l.length < 2 * (l.length / 2 + 1) := Nat.lt_mul_div_succ _ two_pos
  rw [treeLevel, List.length_append, List.length_zipWith, List.length_take, List.length_drop, List.length_drop,
    min_eq_left (Nat.div_le_self _ 2), min_eq_left (Nat.le_sub_of_add_le (by rw [← two_mul]; exact h2))]
  omega

/-- a reduced list is a fixed point of a level, so the `while len(stats) > 1` test can be ignored -/
theorem treeReduce_succ (fuel : ℕ) (l : List σ) :
    treeReduce add (fuel + 1) l = treeReduce add fuel (treeLevel add l) := by
  rw [treeReduce]
  split_ifs with h
  · rfl
  · have h0 : l.length / 2 = 0 := Nat.div_eq_of_lt (by omega)
    have h1 : treeLevel add l = l := by simp [treeLevel, h0]
    rw [h1]; cases fuel <;> simp [treeReduce, h]

theorem treeReduce_length_le_iff (fuel : ℕ) (l : List σ) (c : ℕ) :
    (treeReduce add fuel l).length ≤ c ↔ l.length ≤ 2 ^ fuel * c := by
  induction fuel generalizing l with
  | zero => rw [treeReduce, pow_zero, one_mul]
  | succ fuel ih => rw [treeReduce_succ, ih, treeLevel_length_le_iff, pow_succ', mul_assoc]
end

variable {M : Type} [AddCommMonoid M]

theorem treeLevel_sum (l : List M) : (treeLevel (· + ·) l).sum = l.sum := by
  have h := List.sum_add_sum_eq_sum_zipWith_add_sum_drop (l.take (l.length / 2)) (l.drop (l.length / 2))
  have h0 : (l.take (l.length / 2)).drop (l.drop (l.length / 2)).length = [] := by
    rw [List.drop_eq_nil_iff, List.length_take, List.length_drop]
    exact (min_le_left _ _).trans (Nat.le_sub_of_add_le (by rw [← two_mul]; exact Nat.mul_div_le _ 2))
  simp only [List.sum_take_add_sum_drop, h0, List.sum_nil, add_zero, List.length_take, List.drop_drop,
    min_eq_left (Nat.div_le_self _ 2), ← two_mul] at h
  rw [treeLevel, List.sum_append, h]

theorem treeReduce_sum (fuel : ℕ) (l : List M) : (treeReduce (· + ·) fuel l).sum = l.sum := by
  induction fuel generalizing l with
  | zero => rfl
  | succ fuel ih => rw [treeReduce_succ, ih, treeLevel_sum]

/-- a fixed number of levels: what is left is `⌈n / 2^levels⌉` partial sums whose total is the total -/
theorem treeReduce_levels : ∀ (fuel : Nat) (l : List M), l ≠ [] →
    (treeReduce (· + ·) fuel l).length = (l.length + 2 ^ fuel - 1) / 2 ^ fuel ∧ (treeReduce (· + ·) fuel l).sum = l.sum := by
  intro fuel l _
  refine ⟨eq_of_forall_ge_iff fun c => ?_, treeReduce_sum fuel l⟩
  rw [treeReduce_length_le_iff, Nat.le_mul_iff_le_right (Nat.two_pow_pos fuel)]

/-- the reduction ends with a single total exactly when there are enough levels: `n ≤ 2^levels` -/
theorem treeReduce_single_iff (fuel : Nat) (l : List M) (hne : l ≠ []) :
    (treeReduce (· + ·) fuel l).length = 1 ↔ l.length ≤ 2 ^ fuel := by
  have h0 : ¬ (treeReduce (· + ·) fuel l).length ≤ 0 := by
    rwa [treeReduce_length_le_iff, mul_zero, Nat.le_zero, List.length_eq_zero_iff]
  rw [← mul_one (2 ^ fuel), ← treeReduce_length_le_iff (· + ·), Nat.le_one_iff_eq_zero_or_eq_one,
    or_iff_right (by rwa [Nat.le_zero] at h0)]

theorem treeReduce_eq_sum_of_le_pow (fuel : Nat) (l : List M) (hne : l ≠ []) (hl : l.length ≤ 2 ^ fuel) :
    treeReduce (· + ·) fuel l = [l.sum] := by
  obtain ⟨x, hx⟩ := List.length_eq_one_iff.mp ((treeReduce_single_iff fuel l hne).mpr hl)
  rw [hx, ← treeReduce_sum fuel l, hx, List.sum_singleton]

/-- every element enters the reduction exactly once: the result is the singleton of the total (`fuel + 1 ≤ 2 ^ fuel`
levels are more than the `⌈log₂ n⌉` that are needed) -/
theorem treeReduce_eq_sum : ∀ (fuel : Nat) (l : List M), l ≠ [] → l.length ≤ fuel + 1 →
    treeReduce (· + ·) fuel l = [l.sum] :=
  fun fuel l hne hl => treeReduce_eq_sum_of_le_pow fuel l hne (hl.trans Nat.lt_two_pow_self)
#print axioms treeReduce_eq_sum
