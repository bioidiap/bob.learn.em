import BobEM.Lemmas.FABlocks
import BobEM.Lemmas.BlockMax
import BobEM.Lemmas.Fold

/-! The joint mode of the enrolment posterior (C07): `FA.logPost` is one strictly concave quadratic `jObj`
in the flattened latent vector `(y, x_1 … x_H, z)` (`logPost_joint`, `logPost_jObj`).  Each block update
zeroes its block of the gradient `jGrad`; where the whole gradient vanishes is the unique global maximiser, and one
enrolment iteration contracts the gap to it (`sweep_contracts`, with `latDist2` the distance the gap controls). -/

open Matrix BobEM.FA

variable {C D rU rV : ℕ}

/-- index of the flattened latent vector for `H` sessions -/
abbrev JIdx (C D rU rV H : ℕ) := Fin rV ⊕ ((Fin H × Fin rU) ⊕ (Fin C × Fin D))
/-- one row per (session, component, feature) -/
abbrev JRow (C D H : ℕ) := Fin H × (Fin C × Fin D)

/-- joint design: row `(h, c, d)` is `[V_cd | U_cd in the columns of session h | D_cd in column (c, d)]` -/
noncomputable def jA (M : Model C D rU rV ℝ) (H : ℕ) : JRow C D H → JIdx C D rU rV H → ℝ := fun k j =>
  match j with
  | .inl a => M.V k.2.1 k.2.2 a
  | .inr (.inl hu) => if hu.1 = k.1 then M.U k.2.1 k.2.2 hu.2 else 0
  | .inr (.inr cd) => if cd = k.2 then M.Dd k.2.1 k.2.2 else 0

def flat {H : ℕ} (y : Fin rV → ℝ) (X : Fin H → Fin rU → ℝ) (z : Fin C → Fin D → ℝ) : JIdx C D rU rV H → ℝ := fun j =>
  match j with
  | .inl a => y a
  | .inr (.inl hu) => X hu.1 hu.2
  | .inr (.inr cd) => z cd.1 cd.2

/-- squared Euclidean distance between two latent states (sessions paired in order) -/
noncomputable def latDist2 (l l' : Lat C D rU rV ℝ) : ℝ :=
  (∑ a, (l.y a - l'.y a) * (l.y a - l'.y a))
    + ((l.xs.zip l'.xs).map fun p => ∑ u, (p.1 u - p.2 u) * (p.1 u - p.2 u)).sum
    + ∑ c, ∑ d, (l.z c d - l'.z c d) * (l.z c d - l'.z c d)

theorem flat_inj {H : ℕ} {y y' : Fin rV → ℝ} {X X' : Fin H → Fin rU → ℝ} {z z' : Fin C → Fin D → ℝ}
    (h : flat y X z = flat y' X' z') : y = y' ∧ X = X' ∧ z = z' :=
  ⟨funext fun a => congrFun h (.inl a), funext fun i => funext fun u => congrFun h (.inr (.inl (i, u))),
    funext fun c => funext fun d => congrFun h (.inr (.inr (c, d)))⟩

theorem flat_eta {H : ℕ} (θ : JIdx C D rU rV H → ℝ) :
    flat (fun a => θ (.inl a)) (fun h u => θ (.inr (.inl (h, u)))) (fun c d => θ (.inr (.inr (c, d)))) = θ := by
  funext j
  rcases j with a | hu | cd <;> rfl

theorem flat_sub {H : ℕ} (y y' : Fin rV → ℝ) (X X' : Fin H → Fin rU → ℝ) (z z' : Fin C → Fin D → ℝ) :
    flat (C := C) (D := D) y X z - flat y' X' z' = flat (fun a => y a - y' a) (fun h u => X h u - X' h u) (fun c d => z c d - z' c d) := by
  funext j
  rcases j with a | hu | cd <;> rfl

theorem flat_dot_flat {H : ℕ} (y : Fin rV → ℝ) (X : Fin H → Fin rU → ℝ) (z : Fin C → Fin D → ℝ) :
    flat (C := C) (D := D) y X z ⬝ᵥ flat y X z
      = (∑ a, y a * y a) + (∑ h, ∑ u, X h u * X h u) + ∑ c, ∑ d, z c d * z c d := by
  simp only [dotProduct, Fintype.sum_sum_type, flat, Fintype.sum_prod_type]
  ring

theorem jA_dot_flat (M : Model C D rU rV ℝ) {H : ℕ} (y : Fin rV → ℝ) (X : Fin H → Fin rU → ℝ) (z : Fin C → Fin D → ℝ)
    (k : JRow C D H) :
    jA M H k ⬝ᵥ flat y X z = offset M y (X k.1) z k.2.1 k.2.2 := by
  obtain ⟨h, c, d⟩ := k
  -- the indicator sums collapse to session `h` and entry `(c, d)` (`Finset.sum_ite_eq'`)
  simp only [dotProduct, Fintype.sum_sum_type, jA, flat, offset, apply, sumFin_eq, Fintype.sum_prod_type, ite_mul, zero_mul,
    Finset.sum_ite_irrel, Finset.sum_const_zero, Finset.sum_ite_eq', Finset.mem_univ, if_true, add_assoc]

theorem nonneg_ofFn {H : ℕ} {S : Fin H → St C D ℝ} (hn : ∀ st ∈ List.ofFn S, ∀ c, 0 ≤ st.n c) (h : Fin H) (c : Fin C) :
    0 ≤ (S h).n c := hn _ ((List.mem_ofFn' ..).2 ⟨h, rfl⟩) c

theorem nAcc_nonneg (sts : List (St C D ℝ)) (hn : ∀ st ∈ sts, ∀ c, 0 ≤ st.n c) (c : Fin C) : 0 ≤ nAcc sts c := by
  simp only [nAcc, lsum_eq]
  exact List.sum_nonneg (by intro v hv; obtain ⟨s, hs', rfl⟩ := List.mem_map.mp hv; exact hn s hs' c)

/-- **`logPost` is the joint block objective** of the flattened latent vector -/
theorem logPost_joint (M : Model C D rU rV ℝ) {H : ℕ} (S : Fin H → St C D ℝ) (y : Fin rV → ℝ) (X : Fin H → Fin rU → ℝ)
    (z : Fin C → Fin D → ℝ) :
    logPost M (List.ofFn S) ⟨y, List.ofFn X, z⟩
      = blockObj (jA M H) (fun k => (S k.1).n k.2.1) (fun k => (S k.1).f k.2.1 k.2.2 - (S k.1).n k.2.1 * M.m k.2.1 k.2.2)
          (fun _ => 0) (fun k => M.s k.2.1 k.2.2) (flat y X z) := by
  unfold logPost blockObj
  simp only [lsum_eq, sumFin_eq, zip_ofFn, List.map_ofFn, List.sum_ofFn, Function.comp_def, flat_dot_flat, jA_dot_flat,
    add_zero, sessionTerm, Fintype.sum_prod_type]
  ring

section Joint
variable (M : Model C D rU rV ℝ) {H : ℕ} (S : Fin H → St C D ℝ)

/-- the joint objective (right side of `logPost_joint`) -/
noncomputable def jObj (θ : JIdx C D rU rV H → ℝ) : ℝ :=
  blockObj (jA M H) (fun k => (S k.1).n k.2.1) (fun k => (S k.1).f k.2.1 k.2.2 - (S k.1).n k.2.1 * M.m k.2.1 k.2.2)
    (fun _ => 0) (fun k => M.s k.2.1 k.2.2) θ

/-- its precision, `I + Σ (n/σ) a aᵀ` over the rows of `jA` -/
noncomputable def jP : Matrix (JIdx C D rU rV H) (JIdx C D rU rV H) ℝ :=
  blockP (jA M H) (fun k => (S k.1).n k.2.1) (fun k => M.s k.2.1 k.2.2)

noncomputable def jB : JIdx C D rU rV H → ℝ :=
  blockB (jA M H) (fun k => (S k.1).n k.2.1) (fun k => (S k.1).f k.2.1 k.2.2 - (S k.1).n k.2.1 * M.m k.2.1 k.2.2)
    (fun _ => 0) (fun k => M.s k.2.1 k.2.2)

/-- its gradient (`bGrad` of the joint design, by definition); block optimality, the mode and the hypotheses of
`gs3_contraction` are statements about it -/
noncomputable def jGrad (θ : JIdx C D rU rV H → ℝ) : JIdx C D rU rV H → ℝ := jB M S - jP M S *ᵥ θ

theorem logPost_jObj (y : Fin rV → ℝ) (X : Fin H → Fin rU → ℝ) (z : Fin C → Fin D → ℝ) :
    logPost M (List.ofFn S) ⟨y, List.ofFn X, z⟩ = jObj M S (flat y X z) :=
  logPost_joint M S y X z

theorem jObj_isQuad : IsQuad (jObj M S) (jP M S) (jB M S) :=
  blockObj_isQuad (jA M H) _ _ _ _

theorem jP_quad (v : JIdx C D rU rV H → ℝ) :
    v ⬝ᵥ (jP M S *ᵥ v) = v ⬝ᵥ v + ∑ k, (S k.1).n k.2.1 / M.s k.2.1 k.2.2 * ((jA M H k ⬝ᵥ v) * (jA M H k ⬝ᵥ v)) :=
  quad_one_add_sum _ (jA M H) v

theorem jP_posDef (hn : ∀ h c, 0 ≤ (S h).n c) (hs : ∀ c d, 0 < M.s c d) : (jP M S).PosDef :=
  blockP_posDef _ _ _ (fun k : JRow C D H => hn k.1 k.2.1) (fun k : JRow C D H => hs k.2.1 k.2.2)

theorem jP_ge_one (hn : ∀ h c, 0 ≤ (S h).n c) (hs : ∀ c d, 0 < M.s c d) (v : JIdx C D rU rV H → ℝ) :
    v ⬝ᵥ v ≤ v ⬝ᵥ (jP M S *ᵥ v) :=
  blockP_ge_one _ _ _ (fun k : JRow C D H => hn k.1 k.2.1) (fun k : JRow C D H => hs k.2.1 k.2.2) v

theorem exists_jGrad_zero (hn : ∀ h c, 0 ≤ (S h).n c) (hs : ∀ c d, 0 < M.s c d) : ∃ θ, jGrad M S θ = 0 :=
  ⟨_, grad_argmax (jP_posDef M S hn hs) _⟩

/-- what the statistics `st` of a session leave unexplained by the offset `o`: `F − N (m + o)` -/
def sessResid (st : St C D ℝ) (o : Fin C → Fin D → ℝ) : Fin C → Fin D → ℝ :=
  fun c d => st.f c d - st.n c * (M.m c d + o c d)

theorem jGrad_apply (y : Fin rV → ℝ) (X : Fin H → Fin rU → ℝ) (z : Fin C → Fin D → ℝ) (j : JIdx C D rU rV H) :
    jGrad M S (flat y X z) j
      = ∑ k, jA M H k j * (sessResid M (S k.1) (offset M y (X k.1) z) k.2.1 k.2.2 / M.s k.2.1 k.2.2) - flat y X z j := by
  rw [jGrad, jB, jP, ← bGrad, bGrad_apply]
  simp only [jA_dot_flat, sessResid, add_zero, mul_add, sub_sub]

/-- `jAᵀ Σ⁻¹ w`, block by block, in the model's terms -/
theorem jA_T_y (w : Fin H → Fin C → Fin D → ℝ) (a : Fin rV) :
    ∑ k, jA M H k (.inl a) * (w k.1 k.2.1 k.2.2 / M.s k.2.1 k.2.2) = projT M M.V (fun c d => ∑ h, w h c d) a := by
  simp only [jA, Fintype.sum_prod_type, projT, sumFin_eq, Finset.mul_sum, div_mul_eq_mul_div, mul_div_assoc]
  rw [Finset.sum_comm]
  exact Finset.sum_congr rfl fun c _ => Finset.sum_comm

theorem jA_T_x (w : Fin H → Fin C → Fin D → ℝ) (h : Fin H) (u : Fin rU) :
    ∑ k, jA M H k (.inr (.inl (h, u))) * (w k.1 k.2.1 k.2.2 / M.s k.2.1 k.2.2) = projT M M.U (w h) u := by
  simp only [jA, Fintype.sum_prod_type, projT, sumFin_eq, ite_mul, zero_mul, Finset.sum_ite_irrel, Finset.sum_const_zero,
    Finset.sum_ite_eq, Finset.mem_univ, if_true, div_mul_eq_mul_div, mul_div_assoc]

theorem jA_T_z (w : Fin H → Fin C → Fin D → ℝ) (c : Fin C) (d : Fin D) :
    ∑ k, jA M H k (.inr (.inr (c, d))) * (w k.1 k.2.1 k.2.2 / M.s k.2.1 k.2.2) = M.Dd c d / M.s c d * ∑ h, w h c d := by
  simp only [jA, Fintype.sum_prod_type, ite_mul, zero_mul, Finset.sum_ite_eq, Finset.mem_univ, if_true, Finset.mul_sum,
    div_mul_eq_mul_div, mul_div_assoc]

variable (y : Fin rV → ℝ) (X : Fin H → Fin rU → ℝ) (z : Fin C → Fin D → ℝ)

theorem jGrad_y (a : Fin rV) :
    jGrad M S (flat y X z) (.inl a)
      = projT M M.V (fun c d => ∑ h, sessResid M (S h) (offset M y (X h) z) c d) a - y a := by
  rw [jGrad_apply, jA_T_y M fun h => sessResid M (S h) (offset M y (X h) z)]; rfl

theorem jGrad_x (h : Fin H) (u : Fin rU) :
    jGrad M S (flat y X z) (.inr (.inl (h, u))) = projT M M.U (sessResid M (S h) (offset M y (X h) z)) u - X h u := by
  rw [jGrad_apply, jA_T_x M fun h => sessResid M (S h) (offset M y (X h) z)]; rfl

theorem jGrad_z (c : Fin C) (d : Fin D) :
    jGrad M S (flat y X z) (.inr (.inr (c, d)))
      = M.Dd c d / M.s c d * ∑ h, sessResid M (S h) (offset M y (X h) z) c d - z c d := by
  rw [jGrad_apply, jA_T_z M fun h => sessResid M (S h) (offset M y (X h) z)]; rfl

theorem nAcc_ofFn (c : Fin C) : nAcc (List.ofFn S) c = ∑ h, (S h).n c := by
  simp only [nAcc, lsum_eq, List.map_ofFn, List.sum_ofFn, Function.comp_def]

/-- the residuals of all sessions add up to what `update_y` and `update_z` work on -/
theorem sum_resid (c : Fin C) (d : Fin D) :
    ∑ h, sessResid M (S h) (offset M y (X h) z) c d
      = fAcc (List.ofFn S) c d - nAcc (List.ofFn S) c * (M.m c d + apply M.V y c d + M.Dd c d * z c d)
        - uxTerm M (List.ofFn S) (List.ofFn X) c d := by
  simp only [sessResid, offset, fAcc, nAcc, uxTerm, lsum_eq, zip_ofFn, List.map_ofFn, List.sum_ofFn, Function.comp_def,
    Finset.sum_mul, ← Finset.sum_sub_distrib]
  exact Finset.sum_congr rfl fun h _ => by ring

/-! Each update zeroes its block of the gradient.  Arguments: the blocks (for `updateY`, `updateZ` those that
stay fixed), the coordinate, then the sign conditions. -/

theorem jGrad_updateY (X : Fin H → Fin rU → ℝ) (z : Fin C → Fin D → ℝ) (a : Fin rV)
    (hn : ∀ c, 0 ≤ nAcc (List.ofFn S) c) (hs : ∀ c d, 0 < M.s c d) :
    jGrad M S (flat (updateY M (List.ofFn S) (List.ofFn X) z) X z) (.inl a) = 0 := by
  rw [show updateY M (List.ofFn S) (List.ofFn X) z = _ from vecMul_idPlusInv .., jGrad_y, sub_eq_zero]
  refine Eq.trans ?_ (congrFun (projT_resid_inv M M.V _ hn hs _) a)
  congr 1; funext c d
  rw [sum_resid]; ring

/-- the block of session `h` sees `X h` alone: the other sessions' factors are free -/
theorem jGrad_latentX (y : Fin rV → ℝ) (X : Fin H → Fin rU → ℝ) (z : Fin C → Fin D → ℝ) (h : Fin H) (u : Fin rU)
    (hX : X h = latentX M (S h) y z) (hn : ∀ c, 0 ≤ (S h).n c) (hs : ∀ c d, 0 < M.s c d) :
    jGrad M S (flat y X z) (.inr (.inl (h, u))) = 0 := by
  rw [jGrad_x, sub_eq_zero, hX, show latentX M (S h) y z = _ from mulVec_idPlusInv ..]
  refine Eq.trans ?_ (congrFun (projT_resid_inv M M.U _ hn hs _) u)
  congr 1; funext c d
  simp only [sessResid, offset]; ring

theorem jGrad_updateZ (y : Fin rV → ℝ) (X : Fin H → Fin rU → ℝ) (c : Fin C) (d : Fin D)
    (hn : 0 ≤ nAcc (List.ofFn S) c) (hs : 0 < M.s c d) :
    jGrad M S (flat y X (updateZ M (List.ofFn S) (List.ofFn X) y)) (.inr (.inr (c, d))) = 0 := by
  have e := z_closed_form M (List.ofFn S) (List.ofFn X) y c d hn hs
  rw [jGrad_z, sum_resid]
  linear_combination -e

/-- `jP_ge_one` along `z` under the hypothesis of `C07_block_is_argmax_z`, which is `0 ≤ nAcc` only: single
sessions may have negative counts and `jP` need not be positive semidefinite, so the curvature is computed. -/
theorem z_curvature (y : Fin rV → ℝ) (X : Fin H → Fin rU → ℝ) (z z' : Fin C → Fin D → ℝ)
    (hn : ∀ c, 0 ≤ nAcc (List.ofFn S) c) (hs : ∀ c d, 0 < M.s c d) :
    (flat y X z' - flat y X z) ⬝ᵥ (flat y X z' - flat y X z)
      ≤ (flat y X z' - flat y X z) ⬝ᵥ (jP M S *ᵥ (flat y X z' - flat y X z)) := by
  have e : ∀ k : JRow C D H, jA M H k ⬝ᵥ (flat y X z' - flat y X z) = M.Dd k.2.1 k.2.2 * (z' k.2.1 k.2.2 - z k.2.1 k.2.2) := by
    intro k
    rw [dotProduct_sub, jA_dot_flat, jA_dot_flat]; simp only [offset]; ring
  rw [jP_quad]
  simp only [e, Fintype.sum_prod_type]
  rw [Finset.sum_comm]
  refine le_add_of_nonneg_right (Finset.sum_nonneg fun c _ => ?_)
  rw [Finset.sum_comm]
  refine Finset.sum_nonneg fun d _ => ?_
  rw [← Finset.sum_mul, ← Finset.sum_div, ← nAcc_ofFn]
  exact mul_nonneg (div_nonneg (hn c) (hs c d).le) (mul_self_nonneg _)

theorem mode_of_jGrad_zero (y : Fin rV → ℝ) (X : Fin H → Fin rU → ℝ) (z : Fin C → Fin D → ℝ)
    (hn : ∀ h c, 0 ≤ (S h).n c) (hs : ∀ c d, 0 < M.s c d) (h0 : jGrad M S (flat y X z) = 0)
    (l' : Lat C D rU rV ℝ) (hlen' : l'.xs.length = H) :
    logPost M (List.ofFn S) l' ≤ logPost M (List.ofFn S) ⟨y, List.ofFn X, z⟩
      ∧ (logPost M (List.ofFn S) l' = logPost M (List.ofFn S) ⟨y, List.ofFn X, z⟩ → l' = ⟨y, List.ofFn X, z⟩)
      ∧ latDist2 l' ⟨y, List.ofFn X, z⟩
          ≤ 2 * (logPost M (List.ofFn S) ⟨y, List.ofFn X, z⟩ - logPost M (List.ofFn S) l') := by
  obtain ⟨y', xs', z'⟩ := l'
  obtain ⟨X', rfl⟩ := exists_ofFn xs' hlen'
  have hf := jObj_isQuad M S
  have hP := jP_posDef M S hn hs
  have hd := hf.dist_le_gap (jP_ge_one M S hn hs) h0 (flat y' X' z')
  rw [logPost_jObj, logPost_jObj]
  refine ⟨hf.le_of_grad_zero hP.posSemidef h0 _, fun he => ?_, ?_⟩
  · obtain ⟨rfl, rfl, rfl⟩ := flat_inj (hf.eq_of_grad_zero hP h0 he)
    rfl
  · rw [flat_sub, flat_dot_flat] at hd
    simpa only [latDist2, zip_ofFn, List.map_ofFn, List.sum_ofFn, Function.comp_def] using hd
end Joint

/-- the mode, with the distance bound `latDist2 l' m ≤ 2 (logPost m − logPost l')` through which the convergence of
`logPost` along the iteration becomes convergence of the latent factors -/
theorem joint_mode (M : Model C D rU rV ℝ) (sts : List (St C D ℝ))
    (hn : ∀ st ∈ sts, ∀ c, 0 ≤ st.n c) (hs : ∀ c d, 0 < M.s c d) :
    ∃ m : Lat C D rU rV ℝ, m.xs.length = sts.length ∧
      ∀ l' : Lat C D rU rV ℝ, l'.xs.length = sts.length →
        logPost M sts l' ≤ logPost M sts m ∧ (logPost M sts l' = logPost M sts m → l' = m)
          ∧ latDist2 l' m ≤ 2 * (logPost M sts m - logPost M sts l') := by
  obtain ⟨H, S, rfl⟩ : ∃ H, ∃ S : Fin H → St C D ℝ, sts = List.ofFn S := ⟨_, _, List.ofFn_getElem.symm⟩
  obtain ⟨θ, h0⟩ := exists_jGrad_zero M S (nonneg_ofFn hn) hs
  rw [← flat_eta θ] at h0
  exact ⟨⟨_, List.ofFn _, _⟩, by rw [List.length_ofFn, List.length_ofFn], fun l' hl' =>
    mode_of_jGrad_zero M S _ _ _ (nonneg_ofFn hn) hs h0 l' (hl'.trans (List.length_ofFn ..))⟩

theorem enroll_xs_length (M : Model C D rU rV ℝ) (sts : List (St C D ℝ)) (k : ℕ) :
    (enroll M sts k).xs.length = sts.length := by
  cases k with
  | zero => simp [enroll, Lat.zero]
  | succ k => simp [enroll, sweep]

section Contraction
variable (M : Model C D rU rV ℝ) (sts : List (St C D ℝ))

theorem latDist2_nonneg (l l' : Lat C D rU rV ℝ) : 0 ≤ latDist2 l l' := by
  refine add_nonneg (add_nonneg (Finset.sum_nonneg fun _ _ => mul_self_nonneg _) (List.sum_nonneg fun v hv => ?_))
    (Finset.sum_nonneg fun _ _ => Finset.sum_nonneg fun _ _ => mul_self_nonneg _)
  obtain ⟨p, _, rfl⟩ := List.mem_map.mp hv
  exact Finset.sum_nonneg fun _ _ => mul_self_nonneg _

/-- one enrolment iteration contracts the gap to any latent state: its three stages are the steps of
`gs3_contraction` in flattened coordinates -/
theorem sweep_contracts (m : Lat C D rU rV ℝ)
    (hmlen : m.xs.length = sts.length)
    (hn : ∀ st ∈ sts, ∀ c, 0 ≤ st.n c) (hs : ∀ c d, 0 < M.s c d) :
    ∃ q : ℝ, 0 ≤ q ∧ q < 1 ∧ ∀ l : Lat C D rU rV ℝ, l.xs.length = sts.length →
      logPost M sts m - logPost M sts (sweep M sts l) ≤ q * (logPost M sts m - logPost M sts l) := by
  obtain ⟨ym, xsm, zm⟩ := m
  obtain ⟨H, S, Xm, rfl, rfl⟩ := exists_ofFn₂ sts xsm hmlen
  have hK : 0 ≤ 6 * frob2 (jP M S) := mul_nonneg (by norm_num) (frob2_nonneg _)
  have hK1 : 0 < 6 * frob2 (jP M S) + 1 := add_pos_of_nonneg_of_pos hK one_pos
  refine ⟨1 - 1 / (6 * frob2 (jP M S) + 1), sub_nonneg.mpr ((div_le_one hK1).mpr (le_add_of_nonneg_left hK)),
    sub_lt_self _ (one_div_pos.mpr hK1), ?_⟩
  rintro ⟨y, xs, z⟩ hlen
  obtain ⟨X, rfl⟩ := exists_ofFn xs (hlen.trans (List.length_ofFn ..))
  have hnA := nAcc_nonneg _ hn
  -- the stages of the sweep, as steps from `flat y X z`
  set y1 := updateY M (List.ofFn S) (List.ofFn X) z
  set X1 : Fin H → Fin rU → ℝ := fun h => latentX M (S h) y1 z
  set z1 := updateZ M (List.ofFn S) (List.ofFn X1) y1
  have G := gs3_contraction (jA M H) _ (fun k => (S k.1).f k.2.1 k.2.2 - (S k.1).n k.2.1 * M.m k.2.1 k.2.2) (fun _ => 0) _
    (fun k : JRow C D H => nonneg_ofFn hn k.1 k.2.1) (fun k : JRow C D H => hs k.2.1 k.2.2)
    (flat ym Xm zm) (flat y X z) (flat y1 X z - flat y X z) (flat y1 X1 z - flat y1 X z) (flat y1 X1 z1 - flat y1 X1 z)
    (fun j => by rcases j with hu | cd <;> exact sub_self _)
    ⟨fun _ => sub_self _, fun _ => sub_self _⟩ ⟨fun _ => sub_self _, fun _ => sub_self _⟩
  simp only [add_sub_cancel] at G
  have G := G (fun a => jGrad_updateY M S X z a hnA hs) (fun j => jGrad_latentX M S y1 X1 z j.1 j.2 rfl (nonneg_ofFn hn j.1) hs)
    (fun k => jGrad_updateZ M S y1 X1 k.1 k.2 (hnA _) (hs _ _))
  simp only [sweep, List.map_ofFn, Function.comp_def, logPost_jObj]
  exact G
#print axioms sweep_contracts
end Contraction
