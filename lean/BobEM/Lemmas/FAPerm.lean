import BobEM.Lemmas.FATrainIdent

/-! ISV / JFA training is invariant under reordering the classes and the sessions inside each class
(C16): every quantity a training step takes from the data is a sum over classes of a function of
the class, and each such function takes from its sessions only sums over sessions.  The factors that
`finalize_v` / `finalize_u` hand on enter as order-independent functions of the class (`PermInv`). -/

open BobEM.FA

variable {C D rU rV : ℕ}

theorem Acc_sum_perm {r : ℕ} {l l' : List (Acc C D r ℝ)} (h : l.Perm l') : Acc.sum l = Acc.sum l' := by
  simp only [Acc_sum_eq, (h.map _).sum_eq]

theorem AccD_sum_perm {l l' : List (AccD C D ℝ)} (h : l.Perm l') : AccD.sum l = AccD.sum l' := by
  simp only [AccD_sum_eq, (h.map _).sum_eq]

theorem nAcc_perm {sts sts' : List (St C D ℝ)} (h : sts.Perm sts') : nAcc sts = nAcc sts' := by
  funext c; simp only [nAcc, lsum_eq]; exact (h.map _).sum_eq
theorem fAcc_perm {sts sts' : List (St C D ℝ)} (h : sts.Perm sts') : fAcc sts = fAcc sts' := by
  funext c d; simp only [fAcc, lsum_eq]; exact (h.map _).sum_eq

/-- `Σ_h N_h U x_h` with `x_h` a function of the session: a sum over sessions -/
theorem uxTerm_map_perm {sts sts' : List (St C D ℝ)} (h : sts.Perm sts') (M : Model C D rU rV ℝ) (g : St C D ℝ → Fin rU → ℝ) :
    uxTerm M sts (sts.map g) = uxTerm M sts' (sts'.map g) := by
  funext c d
  simp only [uxTerm, lsum_eq, ← List.map_prod_left_eq_zip, List.map_map, Function.comp_def]
  exact (h.map _).sum_eq

theorem updateY_zeros_perm {sts sts' : List (St C D ℝ)} (h : sts.Perm sts') (M : Model C D rU rV ℝ) (z : Fin C → Fin D → ℝ) :
    updateY M sts (zerosX sts.length) z = updateY M sts' (zerosX sts'.length) z := by
  simp only [updateY, updateYG, uxTerm_zeros, nAcc_perm h, fAcc_perm h]

theorem eStepV_perm {sts sts' : List (St C D ℝ)} (h : sts.Perm sts') (M : Model C D rU rV ℝ) : eStepV M sts = eStepV M sts' := by
  simp only [eStepV, fnY, updateY_zeros_perm h M, uxTerm_zeros, nAcc_perm h, fAcc_perm h]

theorem eStepU_perm {sts sts' : List (St C D ℝ)} (h : sts.Perm sts') (M : Model C D rU rV ℝ) (y : Fin rV → ℝ) :
    eStepU M sts y = eStepU M sts' y := Acc_sum_perm (h.map _)

theorem updateZ_map_perm {sts sts' : List (St C D ℝ)} (h : sts.Perm sts') (M : Model C D rU rV ℝ) (g : St C D ℝ → Fin rU → ℝ)
    (y : Fin rV → ℝ) : updateZ M sts (sts.map g) y = updateZ M sts' (sts'.map g) y := by
  funext c d
  simp only [updateZ, uxTerm_map_perm h M g, nAcc_perm h, fAcc_perm h]

theorem eStepD_map_perm {sts sts' : List (St C D ℝ)} (h : sts.Perm sts') (M : Model C D rU rV ℝ) (g : St C D ℝ → Fin rU → ℝ)
    (y : Fin rV → ℝ) : eStepD M sts (sts.map g) y = eStepD M sts' (sts'.map g) y := by
  simp only [eStepD, fnZ, updateZ_map_perm h M g, uxTerm_map_perm h M g, nAcc_perm h, fAcc_perm h]

theorem eStepIsv_perm {sts sts' : List (St C D ℝ)} (h : sts.Perm sts') (M : Model C D rU rV ℝ) : eStepIsv M sts = eStepIsv M sts' := by
  simp only [eStepIsv, ← List.map_prod_left_eq_zip, List.map_map, Function.comp_def, updateZ_map_perm h M]
  exact Acc_sum_perm (h.map _)

/-- the same labelled sessions: classes in another order, sessions of each class in another order -/
def SameSessions (cl cl' : List (List (St C D ℝ))) : Prop :=
  ∃ mid, List.Forall₂ List.Perm cl mid ∧ mid.Perm cl'

/-- a function of the class that does not depend on the order of its sessions -/
def PermInv {β : Type} (F : List (St C D ℝ) → β) : Prop := ∀ s s', s.Perm s' → F s = F s'

section Same
variable {cl cl' : List (List (St C D ℝ))} (h : SameSessions cl cl')
include h

theorem map_perm_of_same {β : Type} {F : List (St C D ℝ) → β} (hF : PermInv F) : (cl.map F).Perm (cl'.map F) := by
  obtain ⟨mid, h1, h2⟩ := h
  refine List.Perm.trans (.of_eq ?_) (h2.map F)
  clear h2
  induction h1 with
  | nil => rfl
  | cons hab _ ih => rw [List.map_cons, List.map_cons, hF _ _ hab, ih]

theorem stepV_same (M : Model C D rU rV ℝ) : stepV M cl = stepV M cl' := by
  simp only [stepV, Acc_sum_perm (map_perm_of_same h fun _ _ hs => eStepV_perm hs M)]

theorem stepIsv_same (M : Model C D rU rV ℝ) : stepIsv M cl = stepIsv M cl' := by
  simp only [stepIsv, Acc_sum_perm (map_perm_of_same h fun _ _ hs => eStepIsv_perm hs M)]

theorem stepU_same (M : Model C D rU rV ℝ) {gY : List (St C D ℝ) → Fin rV → ℝ} (hY : PermInv gY) :
    stepU M cl (cl.map gY) = stepU M cl' (cl'.map gY) := by
  have hF : PermInv fun sts => eStepU M sts (gY sts) := fun s s' hs => by simp only [hY s s' hs, eStepU_perm hs M]
  simp only [stepU, ← List.map_prod_left_eq_zip, List.map_map, Function.comp_def, Acc_sum_perm (map_perm_of_same h hF)]

theorem stepD_same (M : Model C D rU rV ℝ) {gY : List (St C D ℝ) → Fin rV → ℝ} (hY : PermInv gY)
    {gX : List (St C D ℝ) → St C D ℝ → Fin rU → ℝ} (hX : PermInv gX) :
    stepD M cl (cl.map fun sts => sts.map (gX sts)) (cl.map gY)
      = stepD M cl' (cl'.map fun sts => sts.map (gX sts)) (cl'.map gY) := by
  have hF : PermInv fun sts => eStepD M sts (sts.map (gX sts)) (gY sts) :=
    fun s s' hs => by simp only [hY s s' hs, hX s s' hs, eStepD_map_perm hs M]
  have hz : ∀ l : List (List (St C D ℝ)), ((l.zip (l.map fun sts => sts.map (gX sts))).zip (l.map gY))
      = l.map fun sts => ((sts, sts.map (gX sts)), gY sts) := fun l => by rw [← List.map_prod_left_eq_zip, List.zip_map']
  simp only [stepD, hz, List.map_map, Function.comp_def, AccD_sum_perm (map_perm_of_same h hF)]

end Same
