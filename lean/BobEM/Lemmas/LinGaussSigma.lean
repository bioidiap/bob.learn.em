import BobEM.Lemmas.LinGauss

/-! EM with the diagonal noise as a parameter too (the i-vector covariance update): per row the `Θ` update gains at the
old noise, after it the two terms of the row are `noiseTerm` of the residual, and `max floor (e/N)` is the best noise at
or above the floor: `noiseTerm` is maximal at `e/N` and decreases to its right (`noise_gap`). -/

variable {ρ : Type} [Fintype ρ] [DecidableEq ρ]
variable {ι κ : Type} [Fintype ι] [Fintype κ]

/-- noise-dependent part of the log-likelihood of row k: `−½ Ntot log σ − ½ s/σ` -/
noncomputable def noiseTerm (Ntot s σ : ℝ) : ℝ := -(1/2) * Ntot * Real.log σ - (1/2) * s / σ

/-- full objective when the diagonal noise σ is a parameter too -/
noncomputable def margS (N f : ι → κ → ℝ) (s : κ → ℝ) (σ : κ → ℝ) (Θ : κ → ρ → ℝ) : ℝ :=
  marg N f σ Θ + ∑ k, noiseTerm (∑ i, N i k) (s k) (σ k)

/-- the loss of `h(σ) = −(n/2) log σ − e/(2σ)` from `a` to `b` is `(b − a)/(2b) · (n − e/a)` plus `n/2` times
the slack in `log x ≤ x − 1` at `x = a/b` -/
theorem noise_gap {e n a b : ℝ} (hn : 0 ≤ n) (ha : 0 < a) (hb : 0 < b) :
    (b - a) / (2 * b) * (n - e / a) ≤ noiseTerm n e a - noiseTerm n e b := by
  have hlog := Real.log_le_sub_one_of_pos (div_pos ha hb)
  rw [Real.log_div ha.ne' hb.ne'] at hlog
  have key : noiseTerm n e a - noiseTerm n e b - (b - a) / (2 * b) * (n - e / a)
      = (1/2) * n * (a / b - 1 - (Real.log a - Real.log b)) := by
    unfold noiseTerm; field_simp; ring
  rw [← sub_nonneg, key]
  exact mul_nonneg (by positivity) (sub_nonneg.mpr hlog)

/-- `h(σ) = −e/(2σ) − (n/2) log σ` is maximal at `e/n` and decreasing to its right -/
theorem noise_profile {e n a b : ℝ} (hn : 0 < n) (ha : 0 < a) (hab : a ≤ b) (hea : e ≤ n * a) :
    -(1/2) * n * Real.log b - (1/2) * e / b ≤ -(1/2) * n * Real.log a - (1/2) * e / a :=
  have hb := ha.trans_le hab
  sub_nonneg.mp <| (noise_gap (e := e) hn.le ha hb).trans' <|
    mul_nonneg (div_nonneg (sub_nonneg.mpr hab) (by positivity)) (sub_nonneg.mpr ((div_le_iff₀ ha).mpr hea))

theorem noise_opt {e n σ : ℝ} (hn : 0 < n) (he : 0 < e) (hσ : 0 < σ) :
    -(1/2) * n * Real.log σ - (1/2) * e / σ ≤ -(1/2) * n * Real.log (e / n) - (1/2) * e / (e / n) := by
  have := noise_gap (e := e) hn.le (div_pos he hn) hσ
  rw [div_div_cancel₀ he.ne', sub_self, mul_zero] at this
  exact sub_nonneg.mp this

theorem noiseTerm_le_floor_opt {e n fl σ : ℝ} (hn : 0 < n) (hfl : 0 < fl) (hσ : fl ≤ σ) :
    noiseTerm n e σ ≤ noiseTerm n e (max fl (e / n)) := by
  rcases le_total fl (e / n) with hc | hc
  · rw [max_eq_right hc]
    exact noise_opt hn ((div_pos_iff_of_pos_right hn).mp (hfl.trans_le hc)) (hfl.trans_le hσ)
  · rw [max_eq_left hc]
    exact noise_profile hn hfl hσ (by rw [mul_comm]; exact (div_le_iff₀ hn).mp hc)

theorem noiseTerm_add {n s σ : ℝ} (hσ : σ ≠ 0) (q : ℝ) :
    1 / σ * ((1/2) * q) + noiseTerm n s σ = noiseTerm n (s - q) σ := by
  unfold noiseTerm; field_simp; ring

section SigmaEM
variable (N f : ι → κ → ℝ) (s floor : κ → ℝ)

/-- residual of row k after the T update: `e_k = s_k − θ¹_k · a2_k` (the expected residual `s − 2 quadF A1 a2 θ` takes
this short form only at `θ = emStep`, where `A1 θ = a2`) -/
noncomputable def resid (σ0 : κ → ℝ) (Θ0 : κ → ρ → ℝ) (k : κ) : ℝ :=
  s k - emStep N f σ0 Θ0 k ⬝ᵥ accA2 N f σ0 Θ0 k

/-- ivector.py m_step with update_sigma: `σ¹_k = max(floor_k, e_k / N_k)` -/
noncomputable def sigmaStep (σ0 : κ → ℝ) (Θ0 : κ → ρ → ℝ) : κ → ℝ :=
  fun k => max (floor k) (resid N f s σ0 Θ0 k / ∑ i, N i k)

/-- EM with joint update of the loading matrix and the diagonal noise (with a floor) never
decreases the full marginal likelihood. -/
theorem linGaussEM_sigma_monotone (hN : ∀ i k, 0 ≤ N i k) (σ0 : κ → ℝ) (hσ0 : ∀ k, 0 < σ0 k)
    (Θ0 : κ → ρ → ℝ) (hA1 : ∀ k, (accA1 N f σ0 Θ0 k).PosDef)
    (hNtot : ∀ k, 0 < ∑ i, N i k) (hfl : ∀ k, 0 < floor k) (hσ0f : ∀ k, floor k ≤ σ0 k) :
    margS N f s σ0 Θ0 ≤ margS N f s (sigmaStep N f s floor σ0 Θ0) (emStep N f σ0 Θ0) := by
  have hσ1 : ∀ k, 0 < sigmaStep N f s floor σ0 Θ0 k := fun k => (hfl k).trans_le (le_max_left _ _)
  have h := linGaussEM_gain_le N f σ0 _ hN hσ0 hσ1 Θ0 (emStep N f σ0 Θ0)
  -- per row: first `Θ` at the noise `σ0`, then the noise at the new `Θ`, where the row's two terms
  -- are `noiseTerm` of the residual
  have hrow := Finset.sum_le_sum fun k (_ : k ∈ Finset.univ) =>
    calc 1 / σ0 k * quadF (accA1 N f σ0 Θ0 k) (accA2 N f σ0 Θ0 k) (Θ0 k) + noiseTerm (∑ i, N i k) (s k) (σ0 k)
        ≤ 1 / σ0 k * quadF (accA1 N f σ0 Θ0 k) (accA2 N f σ0 Θ0 k) (emStep N f σ0 Θ0 k)
            + noiseTerm (∑ i, N i k) (s k) (σ0 k) :=
          add_le_add_left (mul_le_mul_of_nonneg_left (emStep_quadF_le N f σ0 Θ0 k (hA1 k))
            (one_div_pos.mpr (hσ0 k)).le) _
      _ = noiseTerm (∑ i, N i k) (resid N f s σ0 Θ0 k) (σ0 k) := by
          rw [emStep_quadF N f σ0 Θ0 k (hA1 k), noiseTerm_add (hσ0 k).ne', resid]
      _ ≤ noiseTerm (∑ i, N i k) (resid N f s σ0 Θ0 k) (sigmaStep N f s floor σ0 Θ0 k) :=
          noiseTerm_le_floor_opt (hNtot k) (hfl k) (hσ0f k)
      _ = 1 / sigmaStep N f s floor σ0 Θ0 k * quadF (accA1 N f σ0 Θ0 k) (accA2 N f σ0 Θ0 k) (emStep N f σ0 Θ0 k)
            + noiseTerm (∑ i, N i k) (s k) (sigmaStep N f s floor σ0 Θ0 k) := by
          rw [emStep_quadF N f σ0 Θ0 k (hA1 k), noiseTerm_add (hσ1 k).ne', resid]
  simp only [Finset.sum_add_distrib] at hrow
  unfold margS
  linarith
end SigmaEM
#print axioms linGaussEM_sigma_monotone
