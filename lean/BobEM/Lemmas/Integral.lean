import Mathlib.Probability.Distributions.Gaussian.Real
import Mathlib.MeasureTheory.Integral.Pi
import Mathlib.MeasureTheory.Constructions.Pi

open MeasureTheory ProbabilityTheory
open scoped NNReal

variable {C D : ℕ}

/-- the diagonal-Gaussian mixture density integrates to one over ℝ^D -/
theorem mixture_integral_one (w : Fin C → ℝ) (μ : Fin C → Fin D → ℝ) (v : Fin C → Fin D → ℝ≥0)
    (hv : ∀ c d, v c d ≠ 0) (hw : ∑ c, w c = 1) :
    ∫ x : Fin D → ℝ, ∑ c, w c * ∏ d, gaussianPDFReal (μ c d) (v c d) (x d) = 1 := by
  have hint : ∀ c, Integrable (fun x : Fin D → ℝ => w c * ∏ d, gaussianPDFReal (μ c d) (v c d) (x d)) := by
    intro c
    apply Integrable.const_mul
    exact Integrable.fintype_prod (μ := fun _ => (volume : Measure ℝ))
      (f := fun d x => gaussianPDFReal (μ c d) (v c d) x) (fun d => integrable_gaussianPDFReal _ _)
  rw [integral_finsetSum _ (fun c _ => hint c)]
  have : ∀ c, ∫ x : Fin D → ℝ, w c * ∏ d, gaussianPDFReal (μ c d) (v c d) (x d) = w c := by
    intro c
    rw [integral_const_mul]
    have := integral_fintype_prod_eq_prod (𝕜 := ℝ) (μ := fun _ : Fin D => (volume : Measure ℝ))
      (fun d x => gaussianPDFReal (μ c d) (v c d) x)
    rw [volume_pi, this]
    simp only [integral_gaussianPDFReal_eq_one _ (hv c _), Finset.prod_const_one, mul_one]
  simp only [this, hw]
#print axioms mixture_integral_one
