import Mathlib.Tactic

/-! Determinacy of task-graph execution: all linear extensions agree when dependency-unordered
tasks commute. -/

variable {ι σ : Type}

def exec (run : ι → σ → σ) (l : List ι) (s : σ) : σ := l.foldl (fun s i => run i s) s

theorem exec_cons (run : ι → σ → σ) (a : ι) (l : List ι) (s : σ) :
    exec run (a :: l) s = exec run l (run a s) := rfl

theorem exec_append (run : ι → σ → σ) (l1 l2 : List ι) (s : σ) :
    exec run (l1 ++ l2) s = exec run l2 (exec run l1 s) := List.foldl_append

theorem commute_through (run : ι → σ → σ) (a : ι) (pre : List ι)
    (h : ∀ p ∈ pre, ∀ s, run a (run p s) = run p (run a s)) (s : σ) :
    run a (exec run pre s) = exec run pre (run a s) := by
  induction pre generalizing s with
  | nil => rfl
  | cons p pre ih =>
    rw [List.forall_mem_cons] at h
    rw [exec_cons, exec_cons, ← h.1]
    exact ih h.2 _

/-- `dep i j`: task i must run before task j (already transitively closed).
A schedule is a list in execution order in which no task runs before one it depends on. -/
theorem linear_extensions_agree (run : ι → σ → σ) (dep : ι → ι → Prop)
    (hcomm : ∀ i j, i ≠ j → ¬ dep i j → ¬ dep j i → ∀ s, run i (run j s) = run j (run i s)) :
    ∀ (l1 l2 : List ι), l1.Perm l2 → l1.Nodup →
      l1.Pairwise (fun a b => ¬ dep b a) → l2.Pairwise (fun a b => ¬ dep b a) →
      ∀ s, exec run l1 s = exec run l2 s := by
  intro l1
  induction l1 with
  | nil => intro l2 hp _ _ _ s; rw [List.nil_perm.mp hp]
  | cons a t1 ih =>
    intro l2 hp hnd h1 h2 s
    -- what precedes `a` in `l2` follows it in `l1`: neither depends on the other, `a` moves to the front
    obtain ⟨pre, post, rfl⟩ := List.append_of_mem (hp.subset List.mem_cons_self)
    have hp' : t1.Perm (pre ++ post) := (hp.trans List.perm_middle).cons_inv
    rw [List.pairwise_cons] at h1
    rw [List.nodup_cons] at hnd
    rw [List.pairwise_append, List.pairwise_cons] at h2
    have hcm : ∀ p ∈ pre, ∀ s, run a (run p s) = run p (run a s) := fun p hpm =>
      have hpt : p ∈ t1 := hp'.symm.subset (List.mem_append_left _ hpm)
      hcomm a p (fun h => hnd.1 (h ▸ hpt)) (h2.2.2 p hpm a List.mem_cons_self) (h1.1 p hpt)
    rw [exec_append, exec_cons, exec_cons, commute_through run a pre hcm, ← exec_append]
    exact ih _ hp' hnd.2 h1.2 (List.pairwise_append.mpr
      ⟨h2.1, h2.2.1.2, fun x hx y hy => h2.2.2 x hx y (List.mem_cons_of_mem _ hy)⟩) _
#print axioms linear_extensions_agree

/-! Bernstein's conditions: a task reads `reads`, overwrites `writes` with values that depend only
on what it reads. -/
section Bernstein
variable {Loc Val : Type}

structure RWTask (Loc Val : Type) where
  reads : Set Loc
  writes : Set Loc
  f : (Loc → Val) → Loc → Val
  frame : ∀ s s' : Loc → Val, (∀ l ∈ reads, s l = s' l) → ∀ l ∈ writes, f s l = f s' l

open Classical in
noncomputable def RWTask.run (t : RWTask Loc Val) (s : Loc → Val) : Loc → Val :=
  fun l => if l ∈ t.writes then t.f s l else s l

theorem RWTask.run_of_mem (t : RWTask Loc Val) (s : Loc → Val) {l : Loc} (h : l ∈ t.writes) :
    t.run s l = t.f s l := if_pos h

theorem RWTask.run_of_not_mem (t : RWTask Loc Val) (s : Loc → Val) {l : Loc} (h : l ∉ t.writes) :
    t.run s l = s l := if_neg h

theorem bernstein_commute (t u : RWTask Loc Val)
    (hww : Disjoint t.writes u.writes) (htr : Disjoint t.writes u.reads)
    (hur : Disjoint u.writes t.reads) (s : Loc → Val) :
    t.run (u.run s) = u.run (t.run s) := by
  funext l
  have hu : ∀ l ∈ t.reads, u.run s l = s l := fun l hl => u.run_of_not_mem s fun h => Set.disjoint_left.mp hur h hl
  have ht : ∀ l ∈ u.reads, t.run s l = s l := fun l hl => t.run_of_not_mem s fun h => Set.disjoint_left.mp htr h hl
  by_cases hlt : l ∈ t.writes
  · rw [t.run_of_mem _ hlt, u.run_of_not_mem _ (Set.disjoint_left.mp hww hlt), t.run_of_mem _ hlt]
    exact t.frame _ _ hu l hlt
  · rw [t.run_of_not_mem _ hlt]
    by_cases hlu : l ∈ u.writes
    · rw [u.run_of_mem _ hlu, u.run_of_mem _ hlu]
      exact (u.frame _ _ ht l hlu).symm
    · rw [u.run_of_not_mem _ hlu, u.run_of_not_mem _ hlu, t.run_of_not_mem _ hlt]
end Bernstein
#print axioms bernstein_commute
