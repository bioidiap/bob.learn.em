import BobEM.Lemmas.FAIdent

/-! ISV / JFA enrolment (helper file for C07): the closed form of `update_z` (`factor_analysis.py: update_z`),
and the executed (materialised) enrolment `enrollV` read back as the specification's `enroll`, over every
scalar type, `Float` (on which the driver runs) included. -/

open BobEM.FA

variable {C D rU rV : ℕ}

/-- the residual-offset update is the solution of the diagonal system
`(1 + D² N / σ) z = (D / σ)(F − N (m + V y) − Σ_h N_h U x_h)` -/
theorem z_closed_form (M : Model C D rU rV ℝ) (sts : List (St C D ℝ)) (xs : List (Fin rU → ℝ))
    (y : Fin rV → ℝ) (c : Fin C) (d : Fin D) (hn : 0 ≤ nAcc sts c) (hs : 0 < M.s c d) :
    (1 + M.Dd c d / M.s c d * M.Dd c d * nAcc sts c) * updateZ M sts xs y c d
      = M.Dd c d / M.s c d * (fAcc sts c d - nAcc sts c * (M.m c d + apply M.V y c d) - uxTerm M sts xs c d) := by
  have hD : 0 ≤ M.Dd c d / M.s c d * M.Dd c d := by
    rw [div_mul_eq_mul_div]; exact div_nonneg (mul_self_nonneg _) hs.le
  have hpos : 0 < 1 + M.Dd c d / M.s c d * M.Dd c d * nAcc sts c :=
    add_pos_of_pos_of_nonneg one_pos (mul_nonneg hD hn)
  simp only [updateZ]
  rw [← mul_assoc, ← mul_assoc, mul_one_div_cancel hpos.ne', one_mul]

namespace BobEM.FA
variable {α : Type}

theorem ofFn_get {n : ℕ} (f : Fin n → α) (i : Fin n) : (Vector.ofFn f)[i] = f i :=
  Vector.getElem_ofFn ..

theorem Lat.ofV_toV (l : Lat C D rU rV α) : l.toV.ofV = l := by
  simp only [Lat.toV, LatV.ofV, List.map_map, Function.comp_def, ofFn_get, List.map_id']

variable [Add α] [Mul α] [Sub α] [Div α] [OfNat α 0] [OfNat α 1] [LinAlg α]

/-- `↓`: `ofFn_get` must fire before `simp` visits the indexed vector; otherwise it rewrites inside the
vector first and then re-checks the index bound by unfolding the whole update. -/
theorem sweepV_ofV (M : Model C D rU rV α) (sts : List (St C D α)) (l : LatV C D rU rV α) :
    (sweepV M sts l).ofV = sweep M sts l.ofV := by
  simp only [sweepV, sweep, LatV.ofV, List.map_map, Function.comp_def, ↓ofFn_get]

theorem enroll_exec_eq_spec (M : Model C D rU rV α) (sts : List (St C D α)) (k : ℕ) :
    (enrollV M sts k).ofV = enroll M sts k := by
  induction k with
  | zero => exact Lat.ofV_toV _
  | succ k ih => rw [enrollV, sweepV_ofV, ih, enroll]
end BobEM.FA
