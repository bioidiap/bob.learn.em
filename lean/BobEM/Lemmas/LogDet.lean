import Mathlib.Analysis.Matrix.Order
import Mathlib.Analysis.Matrix.PosDef
import Mathlib.Analysis.SpecialFunctions.Log.Basic
import Mathlib.Tactic

open Matrix
open scoped MatrixOrder

variable {n : Type} [Fintype n] [DecidableEq n]

theorem logdet_le_trace_sub {M : Matrix n n ℝ} (hM : M.PosDef) :
    Real.log M.det ≤ M.trace - Fintype.card n := by
  have hH := hM.isHermitian
  rw [hH.det_eq_prod_eigenvalues, hH.trace_eq_sum_eigenvalues]
  simp only [RCLike.ofReal_real_eq_id, id]
  rw [Real.log_prod (fun i _ => (hM.eigenvalues_pos i).ne')]
  rw [← Finset.card_univ, Finset.cast_card, ← Finset.sum_sub_distrib]
  exact Finset.sum_le_sum fun i _ => Real.log_le_sub_one_of_pos (hM.eigenvalues_pos i)

/-- for `lowerItem_le_margItem`: with `S = y⋆ y`, `y P y⋆` is positive definite with the determinant and trace of `P S` -/
theorem logdet_mul_le {P S : Matrix n n ℝ} (hP : P.PosDef) (hS : S.PosDef) :
    Real.log P.det + Real.log S.det ≤ (P * S).trace - Fintype.card n := by
  obtain ⟨y, hy, rfl⟩ := CStarAlgebra.isStrictlyPositive_iff_eq_star_mul_self.mp hS.isStrictlyPositive
  have hyu : IsUnit y.det := (Matrix.isUnit_iff_isUnit_det y).mp hy
  have hyd : y.det ≠ 0 := hyu.ne_zero
  have hM : (y * P * yᴴ).PosDef := by
    apply hP.mul_mul_conjTranspose_same
    exact Matrix.vecMul_injective_of_isUnit hy
  have h := logdet_le_trace_sub hM
  rw [det_mul, det_mul, det_conjTranspose] at h
  rw [star_eq_conjTranspose, det_mul, det_conjTranspose]
  simp only [star_trivial] at h ⊢
  have hPd := hP.det_pos
  rw [Real.log_mul (mul_ne_zero hyd hPd.ne') hyd, Real.log_mul hyd hPd.ne'] at h
  rw [Real.log_mul hyd hyd]
  have ht : (y * P * yᴴ).trace = (P * (yᴴ * y)).trace := by
    rw [Matrix.mul_assoc, Matrix.trace_mul_comm, Matrix.mul_assoc]
  rw [← ht]; linarith
#print axioms logdet_mul_le
