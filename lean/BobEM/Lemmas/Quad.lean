import Mathlib.Analysis.Matrix.Order
import Mathlib.Analysis.Matrix.PosDef
import Mathlib.LinearAlgebra.Matrix.NonsingularInverse
import Mathlib.Analysis.SpecialFunctions.Log.Basic
import Mathlib.Tactic

/-! Quadratics `θ ↦ c + b·θ − ½ θ·Pθ` on `ρ → ℝ` (concave where `P ⪰ 0` is assumed): `IsQuad f P b` says that `f` is
one without fixing how `f` is written, and maxima are read off the gradient `b − Pθ`. -/

open Matrix

variable {ρ : Type} [Fintype ρ]

theorem symm_dot {P : Matrix ρ ρ ℝ} (hP : P.IsHermitian) (x y : ρ → ℝ) :
    x ⬝ᵥ (P *ᵥ y) = (P *ᵥ x) ⬝ᵥ y := by
  rw [Matrix.dotProduct_mulVec, ← Matrix.mulVec_transpose, ← Matrix.conjTranspose_eq_transpose_of_trivial, hP.eq]

theorem dot_self_nonneg (v : ρ → ℝ) : 0 ≤ v ⬝ᵥ v :=
  Finset.sum_nonneg fun _ _ => mul_self_nonneg _

theorem dot_eq_zero_of_coord (u v : ρ → ℝ) (h : ∀ j, u j = 0 ∨ v j = 0) : u ⬝ᵥ v = 0 :=
  Finset.sum_eq_zero fun j _ => mul_eq_zero.mpr (h j)

theorem quad_nonneg {P : Matrix ρ ρ ℝ} (hP : P.PosSemidef) (v : ρ → ℝ) : 0 ≤ v ⬝ᵥ (P *ᵥ v) :=
  star_trivial v ▸ hP.dotProduct_mulVec_nonneg v

/-- the second-order expansion of `f` is exact at every point, with gradient `b − Pθ` at `θ` -/
def IsQuad (f : (ρ → ℝ) → ℝ) (P : Matrix ρ ρ ℝ) (b : ρ → ℝ) : Prop :=
  ∀ θ δ, f (θ + δ) = f θ + (b - P *ᵥ θ) ⬝ᵥ δ - (1/2) * (δ ⬝ᵥ (P *ᵥ δ))

theorem isQuad_of_expand {f : (ρ → ℝ) → ℝ} {P : Matrix ρ ρ ℝ} {b : ρ → ℝ} (hP : P.IsHermitian) (c : ℝ)
    (h : ∀ θ, f θ = c + (b ⬝ᵥ θ - (1/2) * (θ ⬝ᵥ (P *ᵥ θ)))) : IsQuad f P b := by
  intro θ δ
  simp only [h, Matrix.mulVec_add, dotProduct_add, add_dotProduct, sub_dotProduct, symm_dot hP θ δ,
    dotProduct_comm δ (P *ᵥ θ)]
  ring

namespace IsQuad
variable {f : (ρ → ℝ) → ℝ} {P : Matrix ρ ρ ℝ} {b : ρ → ℝ}

theorem sub_eq (hf : IsQuad f P b) (θ θ' : ρ → ℝ) :
    f θ' - f θ = (b - P *ᵥ θ) ⬝ᵥ (θ' - θ) - (1/2) * ((θ' - θ) ⬝ᵥ (P *ᵥ (θ' - θ))) := by
  have := hf θ (θ' - θ)
  rw [add_sub_cancel] at this
  rw [this]; ring

/-- the exact gap below a point that the step `θ' − θ` leaves only along coordinates where the gradient
vanishes: `≤` and the case of equality are read off it -/
theorem sub_eq_of_coord_grad_zero (hf : IsQuad f P b) (θ θ' : ρ → ℝ)
    (h : ∀ j, (b - P *ᵥ θ) j = 0 ∨ (θ' - θ) j = 0) :
    f θ - f θ' = (1/2) * ((θ' - θ) ⬝ᵥ (P *ᵥ (θ' - θ))) := by
  rw [← neg_sub, hf.sub_eq θ θ', dot_eq_zero_of_coord _ _ h, zero_sub, neg_neg]

theorem sub_eq_of_grad_zero (hf : IsQuad f P b) {θ : ρ → ℝ} (h0 : b - P *ᵥ θ = 0) (θ' : ρ → ℝ) :
    f θ - f θ' = (1/2) * ((θ' - θ) ⬝ᵥ (P *ᵥ (θ' - θ))) :=
  hf.sub_eq_of_coord_grad_zero θ θ' fun j => .inl (congrFun h0 j)

/-- the curvature is asked for along `θ' − θ` only: for the z-block of C07 the hypotheses do not make `P`
positive semidefinite -/
theorem le_of_coord_grad_zero (hf : IsQuad f P b) (θ θ' : ρ → ℝ)
    (h : ∀ j, (b - P *ᵥ θ) j = 0 ∨ (θ' - θ) j = 0) (hc : 0 ≤ (θ' - θ) ⬝ᵥ (P *ᵥ (θ' - θ))) : f θ' ≤ f θ :=
  sub_nonneg.mp ((hf.sub_eq_of_coord_grad_zero θ θ' h).symm ▸ mul_nonneg (by norm_num) hc)

theorem le_of_grad_zero (hf : IsQuad f P b) (hP : P.PosSemidef) {θ : ρ → ℝ} (h0 : b - P *ᵥ θ = 0) (θ' : ρ → ℝ) :
    f θ' ≤ f θ :=
  hf.le_of_coord_grad_zero θ θ' (fun j => .inl (congrFun h0 j)) (quad_nonneg hP _)

theorem eq_of_grad_zero (hf : IsQuad f P b) (hP : P.PosDef) {θ θ' : ρ → ℝ} (h0 : b - P *ᵥ θ = 0)
    (heq : f θ' = f θ) : θ' = θ := by
  have e := hf.sub_eq_of_grad_zero h0 θ'
  rw [heq, sub_self, eq_comm, mul_eq_zero] at e
  by_contra hne
  have := hP.dotProduct_mulVec_pos (sub_ne_zero.mpr hne)
  rw [star_trivial] at this
  exact this.ne' (e.resolve_left (by norm_num))

end IsQuad

noncomputable def quadF (P : Matrix ρ ρ ℝ) (b θ : ρ → ℝ) : ℝ := b ⬝ᵥ θ - (1/2) * (θ ⬝ᵥ (P *ᵥ θ))

theorem isQuad_quadF {P : Matrix ρ ρ ℝ} (hP : P.IsHermitian) (b : ρ → ℝ) : IsQuad (quadF P b) P b :=
  isQuad_of_expand hP 0 fun _ => (zero_add _).symm

variable [DecidableEq ρ]

theorem posDef_mul_inv_mulVec {P : Matrix ρ ρ ℝ} (hP : P.PosDef) (b : ρ → ℝ) :
    P *ᵥ (P⁻¹ *ᵥ b) = b := by
  have hu : IsUnit P.det := (Matrix.isUnit_iff_isUnit_det P).mp hP.isUnit
  rw [Matrix.mulVec_mulVec, Matrix.mul_nonsing_inv P hu, Matrix.one_mulVec]

theorem grad_argmax {P : Matrix ρ ρ ℝ} (hP : P.PosDef) (b : ρ → ℝ) : b - P *ᵥ (P⁻¹ *ᵥ b) = 0 := by
  rw [posDef_mul_inv_mulVec hP, sub_self]

theorem quad_max_eq {P : Matrix ρ ρ ℝ} (hP : P.PosDef) (b : ρ → ℝ) :
    b ⬝ᵥ (P⁻¹ *ᵥ b) - (1/2) * ((P⁻¹ *ᵥ b) ⬝ᵥ (P *ᵥ (P⁻¹ *ᵥ b))) = (1/2) * (b ⬝ᵥ (P⁻¹ *ᵥ b)) := by
  rw [posDef_mul_inv_mulVec hP, dotProduct_comm (P⁻¹ *ᵥ b) b]; ring

theorem quadF_le_argmax {P : Matrix ρ ρ ℝ} (hP : P.PosDef) (b y : ρ → ℝ) : quadF P b y ≤ quadF P b (P⁻¹ *ᵥ b) :=
  (isQuad_quadF hP.isHermitian b).le_of_grad_zero hP.posSemidef (grad_argmax hP b) y

/-- a concave quadratic is maximised where its gradient vanishes -/
theorem quad_max {P : Matrix ρ ρ ℝ} (hP : P.PosDef) (b y : ρ → ℝ) :
    b ⬝ᵥ y - (1/2) * (y ⬝ᵥ (P *ᵥ y)) ≤ (1/2) * (b ⬝ᵥ (P⁻¹ *ᵥ b)) :=
  (quadF_le_argmax hP b y).trans_eq (quad_max_eq hP b)
