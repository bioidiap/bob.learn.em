import BobEM.Model.Loop
import Mathlib.Tactic
/-! The fit loop `emLoop` against the trajectory `traj` of its step function: what it returns and when it stops
(`emLoop_spec`, with `convStop` spelt out `emLoop_convStop_spec`), and transport of a whole run along a map that
commutes with step and stopping test (`emLoop_sim_inv`, `traj_sim_inv`). -/

open BobEM

variable {S α : Type} (stepf : S → S × α) (stop : α → α → Bool) (s0 : S) (c0 : α)

/-- the stopping test fires at iteration j (j ≥ 2) -/
def stopsAt (j : Nat) : Prop :=
  2 ≤ j ∧ stop (traj stepf s0 c0 (j-1)).2 (traj stepf s0 c0 j).2 = true

/-- `emLoop_spec` for a loop entered at iteration `step` with `fuel` iterations left -/
theorem emLoop_from (fuel step : Nat) :
    ∃ k, step ≤ k ∧ k ≤ step + fuel ∧
      emLoop stepf stop fuel step (traj stepf s0 c0 step).2 (traj stepf s0 c0 step).1
        = ((traj stepf s0 c0 k).1, k) ∧
      (∀ j, step < j → j < k → ¬ stopsAt stepf stop s0 c0 j) ∧
      (k = step + fuel ∨ (step < k ∧ stopsAt stepf stop s0 c0 k)) := by
  induction fuel generalizing step with
  | zero => exact ⟨step, le_refl _, by omega, rfl, fun j h1 h2 => by omega, Or.inl rfl⟩
  | succ fuel ih =>
    unfold emLoop
    by_cases hstop : (step + 1 > 1 && stop (traj stepf s0 c0 step).2 (stepf (traj stepf s0 c0 step).1).2) = true
    · refine ⟨step + 1, by omega, by omega, ?_, fun j h1 h2 => by omega, Or.inr ⟨by omega, ?_⟩⟩
      · simp only [hstop, if_true]; rfl
      · simp only [Bool.and_eq_true, decide_eq_true_eq] at hstop
        exact ⟨by omega, hstop.2⟩
    · obtain ⟨k, hk1, hk2, heq, hno, hend⟩ := ih (step + 1)
      refine ⟨k, by omega, by omega, ?_, ?_, ?_⟩
      · simp only [hstop, Bool.false_eq_true, if_false]
        exact heq
      · intro j h1 h2
        by_cases hj : j = step + 1
        · subst hj
          intro ⟨h2', hs⟩
          apply hstop
          simp only [Bool.and_eq_true, decide_eq_true_eq]
          exact ⟨by omega, hs⟩
        · exact hno j (by omega) h2
      · rcases hend with h | ⟨h1, h2⟩
        · left; omega
        · right; exact ⟨by omega, h2⟩

/-- C03/C06 stopping rule: started from iteration 0, the loop performs k iterations with
k ≤ max, never having met the stopping test at an earlier iteration ≥ 2, and either k = max or
the test fires at k; it returns the k-th iterate. -/
theorem emLoop_spec (maxSteps : Nat) :
    ∃ k, k ≤ maxSteps ∧
      emLoop stepf stop maxSteps 0 c0 s0 = ((traj stepf s0 c0 k).1, k) ∧
      (∀ j, j < k → ¬ stopsAt stepf stop s0 c0 j) ∧
      (k = maxSteps ∨ stopsAt stepf stop s0 c0 k) := by
  obtain ⟨k, _, hk2, heq, hno, hend⟩ := emLoop_from stepf stop s0 c0 maxSteps 0
  refine ⟨k, by omega, heq, ?_, ?_⟩
  · intro j hj
    by_cases h0 : j = 0
    · subst h0; intro ⟨h, _⟩; omega
    · exact hno j (by omega) hj
  · rcases hend with h | ⟨_, h⟩
    · left; omega
    · right; exact h
#print axioms emLoop_spec

/-- the criterion handed to a loop entered at iteration 0 is never read: the test runs from the second iteration on -/
theorem emLoop_prev_irrelevant (fuel : ℕ) (c c' : α) : emLoop stepf stop fuel 0 c s0 = emLoop stepf stop fuel 0 c' s0 := by
  cases fuel with
  | zero => rfl
  | succ n => rfl

/-- `emLoop_spec` with `convStop` spelt out as the relative change: the stopping rules C03 and C06 -/
theorem emLoop_convStop_spec {S : Type} (stepf : S → S × ℝ) (thr : Option ℝ) (s0 : S) (c0 : ℝ) (maxSteps : ℕ) :
    ∃ k, k ≤ maxSteps ∧
      emLoop stepf (convStop thr) maxSteps 0 c0 s0 = ((traj stepf s0 c0 k).1, k) ∧
      (∀ j t, 2 ≤ j → j < k → thr = some t →
          t < relChange (traj stepf s0 c0 (j-1)).2 (traj stepf s0 c0 j).2) ∧
      (k = maxSteps ∨ (2 ≤ k ∧ ∃ t, thr = some t ∧
          relChange (traj stepf s0 c0 (k-1)).2 (traj stepf s0 c0 k).2 ≤ t)) := by
  obtain ⟨k, hk, heq, hno, hend⟩ := emLoop_spec stepf (convStop thr) s0 c0 maxSteps
  refine ⟨k, hk, heq, fun j t h2 hjk hthr => ?_, hend.imp_right fun ⟨h2, hs⟩ => ⟨h2, ?_⟩⟩
  · refine lt_of_not_ge fun hle => hno j hjk ⟨h2, ?_⟩
    simpa only [convStop, hthr, decide_eq_true_eq] using hle
  · cases hthr : thr with
    | none => simp [convStop, hthr] at hs
    | some t => exact ⟨t, rfl, by simpa [convStop, hthr] using hs⟩

/-- a loop whose step and stopping test commute with `Φ` on an invariant set of states performs the same number
of iterations and ends in the image of the end state -/
theorem emLoop_sim_inv {S S' α : Type} (f : S → S × α) (f' : S' → S' × α) (stop stop' : α → α → Bool)
    (Φ : S → S') (g : α → α) (Inv : S → Prop) (hinv : ∀ s, Inv s → Inv (f s).1)
    (hstep : ∀ s, Inv s → f' (Φ s) = (Φ (f s).1, g (f s).2))
    (hstop : ∀ p c, stop' (g p) (g c) = stop p c) (fuel step : ℕ) (prev : α) (s : S) (hs : Inv s) :
    emLoop f' stop' fuel step (g prev) (Φ s) = (Φ (emLoop f stop fuel step prev s).1, (emLoop f stop fuel step prev s).2) := by
  induction fuel generalizing step prev s with
  | zero => rfl
  | succ fuel ih =>
    unfold emLoop
    simp only [hstep s hs, hstop]
    by_cases h : (step + 1 > 1 && stop prev (f s).2) = true
    · simp only [h, if_true]
    · simp only [h, Bool.false_eq_true, if_false]
      exact ih (step + 1) (f s).2 (f s).1 (hinv s hs)

/-- the case without an invariant -/
theorem emLoop_sim {S S' α : Type} (f : S → S × α) (f' : S' → S' × α) (stop stop' : α → α → Bool)
    (Φ : S → S') (g : α → α) (hstep : ∀ s, f' (Φ s) = (Φ (f s).1, g (f s).2))
    (hstop : ∀ p c, stop' (g p) (g c) = stop p c) (fuel step : ℕ) (prev : α) (s : S) :
    emLoop f' stop' fuel step (g prev) (Φ s) = (Φ (emLoop f stop fuel step prev s).1, (emLoop f stop fuel step prev s).2) :=
  emLoop_sim_inv f f' stop stop' Φ g (fun _ => True) (fun _ _ => trivial) (fun s _ => hstep s) hstop fuel step prev s trivial

/-- the same for `traj` (which hands on the state only, so the criteria play no part) -/
theorem traj_sim_inv {S S' α : Type} (f : S → S × α) (f' : S' → S' × α) (Φ : S → S') (Inv : S → Prop)
    (hinv : ∀ s, Inv s → Inv (f s).1) (hstep : ∀ s, Inv s → (f' (Φ s)).1 = Φ (f s).1) (s0 : S) (h0 : Inv s0) (c0 c0' : α) (k : ℕ) :
    (traj f' (Φ s0) c0' k).1 = Φ (traj f s0 c0 k).1 ∧ Inv (traj f s0 c0 k).1 := by
  induction k with
  | zero => exact ⟨rfl, h0⟩
  | succ k ih => exact ⟨by rw [traj, ih.1, hstep _ ih.2]; rfl, hinv _ ih.2⟩

theorem convStop_scale {σ : ℝ} (hσ : σ ≠ 0) (thr : Option ℝ) (p c : ℝ) : convStop thr (σ * p) (σ * c) = convStop thr p c := by
  cases thr with
  | none => rfl
  | some t =>
    have e : relChange (σ * p) (σ * c) = relChange p c := by rw [relChange, ← mul_sub, mul_div_mul_left _ _ hσ, relChange]
    rw [convStop, e, convStop]
