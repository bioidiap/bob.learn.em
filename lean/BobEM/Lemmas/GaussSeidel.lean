import BobEM.Lemmas.Quad

/-! Linear convergence of exact coordinate ascent on a concave quadratic with `P ⪰ I` (C07): an exact step
gains at least half its squared length, the gap is at most half the squared gradient, and the gradient at
the start of a sweep is bounded by the steps once each coordinate of it has been zeroed by one of them. -/

open Matrix

variable {ρ : Type} [Fintype ρ]

/-- squared Frobenius norm -/
noncomputable def frob2 (P : Matrix ρ ρ ℝ) : ℝ := ∑ i, ∑ j, P i j * P i j

theorem frob2_nonneg (P : Matrix ρ ρ ℝ) : 0 ≤ frob2 P :=
  Finset.sum_nonneg fun _ _ => Finset.sum_nonneg fun _ _ => mul_self_nonneg _

theorem mulVec_sq_le (P : Matrix ρ ρ ℝ) (v : ρ → ℝ) : (P *ᵥ v) ⬝ᵥ (P *ᵥ v) ≤ frob2 P * (v ⬝ᵥ v) := by
  unfold frob2
  simp only [dotProduct, Matrix.mulVec]
  rw [Finset.sum_mul]
  refine Finset.sum_le_sum fun i _ => ?_
  have := Finset.sum_mul_sq_le_sq_mul_sq Finset.univ (fun j => P i j) v
  simp only [pow_two] at this
  exact this

theorem dot_add_sq_le (u v : ρ → ℝ) : (u + v) ⬝ᵥ (u + v) ≤ 2 * (u ⬝ᵥ u) + 2 * (v ⬝ᵥ v) := by
  simp only [dotProduct, Pi.add_apply, Finset.mul_sum, ← Finset.sum_add_distrib]
  refine Finset.sum_le_sum fun i _ => ?_
  linarith [mul_self_nonneg (u i - v i)]

theorem dot_add3_sq_le (u v w : ρ → ℝ) :
    (u + v + w) ⬝ᵥ (u + v + w) ≤ 3 * (u ⬝ᵥ u) + 3 * (v ⬝ᵥ v) + 3 * (w ⬝ᵥ w) := by
  simp only [dotProduct, Pi.add_apply, Finset.mul_sum, ← Finset.sum_add_distrib]
  refine Finset.sum_le_sum fun i _ => ?_
  linarith [mul_self_nonneg (u i - v i), mul_self_nonneg (u i - w i), mul_self_nonneg (v i - w i)]

/-- where the gradient vanishes after the displacement `S i`, at the start it is `P (S i)` -/
theorem grad_sq_le_of_cover {P : Matrix ρ ρ ℝ} {b : ρ → ℝ} {ι : Type} [Fintype ι] (θ₀ : ρ → ℝ) (S : ι → ρ → ℝ)
    (hcov : ∀ j, ∃ i, (b - P *ᵥ (θ₀ + S i)) j = 0) :
    (b - P *ᵥ θ₀) ⬝ᵥ (b - P *ᵥ θ₀) ≤ frob2 P * ∑ i, S i ⬝ᵥ S i := by
  calc (b - P *ᵥ θ₀) ⬝ᵥ (b - P *ᵥ θ₀)
      ≤ ∑ j, ∑ i, (P *ᵥ S i) j * (P *ᵥ S i) j := Finset.sum_le_sum fun j _ => by
        obtain ⟨i, hi⟩ := hcov j
        rw [Matrix.mulVec_add, ← sub_sub, Pi.sub_apply, sub_eq_zero] at hi
        rw [hi]
        exact Finset.single_le_sum (f := fun i => (P *ᵥ S i) j * (P *ᵥ S i) j) (fun _ _ => mul_self_nonneg _)
          (Finset.mem_univ i)
    _ = ∑ i, (P *ᵥ S i) ⬝ᵥ (P *ᵥ S i) := Finset.sum_comm
    _ ≤ ∑ i, frob2 P * (S i ⬝ᵥ S i) := Finset.sum_le_sum fun i _ => mulVec_sq_le P (S i)
    _ = frob2 P * ∑ i, S i ⬝ᵥ S i := (Finset.mul_sum _ _ _).symm

/-- gap `E ≤ K D` before the sweep, gain `E − E' ≥ D` -/
theorem contraction_of_gain {E E' K D : ℝ} (hK : 0 ≤ K) (hD : 0 ≤ D) (hg : D ≤ E - E') (h : E ≤ K * D) :
    E' ≤ (1 - 1 / (K + 1)) * E := by
  have hE : E ≤ (E - E') * (K + 1) := by
    have := mul_le_mul_of_nonneg_left hg hK
    linarith
  rw [one_sub_mul, one_div_mul_eq_div, le_sub_comm]
  exact (div_le_iff₀ (by linarith)).mpr hE

namespace IsQuad
variable {f : (ρ → ℝ) → ℝ} {P : Matrix ρ ρ ℝ} {b : ρ → ℝ}

theorem gap_le_grad (hf : IsQuad f P b) (hPI : ∀ v : ρ → ℝ, v ⬝ᵥ v ≤ v ⬝ᵥ (P *ᵥ v)) (θ θ' : ρ → ℝ) :
    f θ' - f θ ≤ (1/2) * ((b - P *ᵥ θ) ⬝ᵥ (b - P *ᵥ θ)) := by
  have e := hf.sub_eq θ θ'
  have := hPI (θ' - θ)
  generalize b - P *ᵥ θ = G, θ' - θ = d at *
  have h2 := dot_self_nonneg (G - d)
  rw [sub_dotProduct, dotProduct_sub, dotProduct_sub, dotProduct_comm d G] at h2
  linarith

theorem step_gain (hf : IsQuad f P b) (hPI : ∀ v : ρ → ℝ, v ⬝ᵥ v ≤ v ⬝ᵥ (P *ᵥ v)) (θ Δ : ρ → ℝ)
    (h : (b - P *ᵥ (θ + Δ)) ⬝ᵥ Δ = 0) :
    (1/2) * (Δ ⬝ᵥ Δ) ≤ f (θ + Δ) - f θ := by
  rw [Matrix.mulVec_add, ← sub_sub, sub_dotProduct, dotProduct_comm (P *ᵥ Δ), sub_eq_zero] at h
  have e : f (θ + Δ) - f θ = (1/2) * (Δ ⬝ᵥ (P *ᵥ Δ)) := by rw [hf θ Δ, h]; ring
  rw [e]
  exact mul_le_mul_of_nonneg_left (hPI Δ) (by norm_num)

theorem dist_le_gap (hf : IsQuad f P b) (hPI : ∀ v : ρ → ℝ, v ⬝ᵥ v ≤ v ⬝ᵥ (P *ᵥ v)) {θs : ρ → ℝ}
    (h0 : b - P *ᵥ θs = 0) (θ : ρ → ℝ) :
    (θ - θs) ⬝ᵥ (θ - θs) ≤ 2 * (f θs - f θ) := by
  have := hf.sub_eq_of_grad_zero h0 θ
  have := hPI (θ - θs)
  linarith

/-- three exact steps, every coordinate of the gradient zeroed by one of them; `6 = 1 + 2 + 3` bounds the
squared partial sums of the steps by the squared steps -/
theorem gs3 (hf : IsQuad f P b) (hPI : ∀ v : ρ → ℝ, v ⬝ᵥ v ≤ v ⬝ᵥ (P *ᵥ v))
    (θs θ₀ Δ₁ Δ₂ Δ₃ : ρ → ℝ)
    (o1 : (b - P *ᵥ (θ₀ + Δ₁)) ⬝ᵥ Δ₁ = 0) (o2 : (b - P *ᵥ (θ₀ + Δ₁ + Δ₂)) ⬝ᵥ Δ₂ = 0)
    (o3 : (b - P *ᵥ (θ₀ + Δ₁ + Δ₂ + Δ₃)) ⬝ᵥ Δ₃ = 0)
    (hcov : ∀ j, (b - P *ᵥ (θ₀ + Δ₁)) j = 0 ∨ (b - P *ᵥ (θ₀ + Δ₁ + Δ₂)) j = 0
      ∨ (b - P *ᵥ (θ₀ + Δ₁ + Δ₂ + Δ₃)) j = 0) :
    f θs - f (θ₀ + Δ₁ + Δ₂ + Δ₃) ≤ (1 - 1 / (6 * frob2 P + 1)) * (f θs - f θ₀) := by
  have hF := frob2_nonneg P
  have n2 := dot_self_nonneg Δ₂
  have n3 := dot_self_nonneg Δ₃
  have gain : (1/2) * (Δ₁ ⬝ᵥ Δ₁ + Δ₂ ⬝ᵥ Δ₂ + Δ₃ ⬝ᵥ Δ₃) ≤ f θs - f θ₀ - (f θs - f (θ₀ + Δ₁ + Δ₂ + Δ₃)) := by
    linarith [hf.step_gain hPI θ₀ Δ₁ o1, hf.step_gain hPI (θ₀ + Δ₁) Δ₂ o2, hf.step_gain hPI (θ₀ + Δ₁ + Δ₂) Δ₃ o3]
  have sums : Δ₁ ⬝ᵥ Δ₁ + (Δ₁ + Δ₂) ⬝ᵥ (Δ₁ + Δ₂) + (Δ₁ + Δ₂ + Δ₃) ⬝ᵥ (Δ₁ + Δ₂ + Δ₃)
      ≤ 6 * (Δ₁ ⬝ᵥ Δ₁ + Δ₂ ⬝ᵥ Δ₂ + Δ₃ ⬝ᵥ Δ₃) := by
    linarith [dot_add_sq_le Δ₁ Δ₂, dot_add3_sq_le Δ₁ Δ₂ Δ₃]
  have gsq := grad_sq_le_of_cover (P := P) (b := b) θ₀ ![Δ₁, Δ₁ + Δ₂, Δ₁ + Δ₂ + Δ₃] fun j => by
    rcases hcov j with h | h | h
    exacts [⟨0, h⟩, ⟨1, by rwa [add_assoc] at h⟩, ⟨2, by rwa [add_assoc, add_assoc, ← add_assoc Δ₁] at h⟩]
  rw [Fin.sum_univ_three] at gsq
  refine contraction_of_gain (K := 6 * frob2 P) (by positivity)
    (mul_nonneg (by norm_num) (add_nonneg (add_nonneg (dot_self_nonneg Δ₁) n2) n3)) gain ?_
  calc f θs - f θ₀
      ≤ (1/2) * ((b - P *ᵥ θ₀) ⬝ᵥ (b - P *ᵥ θ₀)) := hf.gap_le_grad hPI θ₀ θs
    _ ≤ (1/2) * (frob2 P * (6 * (Δ₁ ⬝ᵥ Δ₁ + Δ₂ ⬝ᵥ Δ₂ + Δ₃ ⬝ᵥ Δ₃))) :=
        mul_le_mul_of_nonneg_left (gsq.trans (mul_le_mul_of_nonneg_left sums hF)) (by norm_num)
    _ = 6 * frob2 P * ((1/2) * (Δ₁ ⬝ᵥ Δ₁ + Δ₂ ⬝ᵥ Δ₂ + Δ₃ ⬝ᵥ Δ₃)) := by ring
end IsQuad
