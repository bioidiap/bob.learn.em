import BobEM.Model.FA
import BobEM.Lemmas.RealLinAlg
import BobEM.Lemmas.LinGauss

/-! The concrete FA kernel (sums over components and features, `LinAlg.inv`) in terms of the abstract
linear-Gaussian model (rows κ = Fin C × Fin D, Mathlib's matrix inverse), for every loading. -/

open Matrix BobEM BobEM.FA

variable {C D rU rV : ℕ}

/-- variances as a function of the abstract row index -/
def sigmaOf (M : Model C D rU rV ℝ) : Fin C × Fin D → ℝ := fun k => M.s k.1 k.2

/-- abstract rows of a loading -/
def rowsOf {r : ℕ} (L : Fin C → Fin D → Fin r → ℝ) : Fin C × Fin D → Fin r → ℝ := fun k a => L k.1 k.2 a

/-- posterior precision of a block with loading `L` and counts `n` -/
noncomputable def faPrecision {r : ℕ} (M : Model C D rU rV ℝ) (L : Fin C → Fin D → Fin r → ℝ) (n : Fin C → ℝ) :
    Matrix (Fin r) (Fin r) ℝ := Matrix.of fun a b => eye r a b + prodN M L n a b

theorem idPlus_eq_Pmat {r : ℕ} (M : Model C D rU rV ℝ) (L : Fin C → Fin D → Fin r → ℝ) (n : Fin C → ℝ) :
    faPrecision M L n = Pmat (ι := Unit) (fun _ k => n k.1) (sigmaOf M) (rowsOf L) () := by
  ext a b
  simp only [faPrecision, sigmaOf, Pmat, Matrix.of_apply, Matrix.add_apply, Matrix.one_apply, eye, prodN, sumFin_eq,
    Matrix.sum_apply, Matrix.smul_apply, vecMulVec_apply, rowsOf, smul_eq_mul, Fintype.sum_prod_type]
  congr 1
  refine Finset.sum_congr rfl fun c _ => ?_
  rw [Finset.mul_sum]
  exact Finset.sum_congr rfl fun d _ => by ring

theorem projT_eq_bvec {r : ℕ} (M : Model C D rU rV ℝ) (L : Fin C → Fin D → Fin r → ℝ)
    (g : Fin C → Fin D → ℝ) :
    projT M L g = bvec (ι := Unit) (fun _ k => g k.1 k.2) (sigmaOf M) (rowsOf L) () := by
  funext a
  simp only [sigmaOf, projT, bvec, sumFin_eq, Finset.sum_apply, Pi.smul_apply, rowsOf, smul_eq_mul,
    Fintype.sum_prod_type]
  exact Finset.sum_congr rfl fun c _ => Finset.sum_congr rfl fun d _ => by ring

theorem apply_eq_dot {r : ℕ} (L : Fin C → Fin D → Fin r → ℝ) (x : Fin r → ℝ) (c : Fin C) (d : Fin D) :
    apply L x c d = rowsOf L (c, d) ⬝ᵥ x := by
  simp only [apply, sumFin_eq, rowsOf, dotProduct]

theorem mulVec_inv {r : ℕ} (A : Fin r → Fin r → ℝ) (v : Fin r → ℝ) :
    FA.mulVec (LinAlg.inv r A) v = (Matrix.of A)⁻¹ *ᵥ v := by
  funext a
  simp only [FA.mulVec, sumFin_eq, Matrix.mulVec, dotProduct]
  rfl

theorem vecMul_inv {r : ℕ} (A : Fin r → Fin r → ℝ) (v : Fin r → ℝ) :
    FA.vecMul v (LinAlg.inv r A) = v ᵥ* (Matrix.of A)⁻¹ := by
  funext a
  simp only [FA.vecMul, sumFin_eq, Matrix.vecMul, dotProduct]
  rfl

/-- `v @ inv(A)` is `inv(A) @ v` for symmetric `A` (`update_y`, `m_step_v`, `update_U` multiply from the left) -/
theorem vecMul_inv_of_isHermitian {r : ℕ} {A : Fin r → Fin r → ℝ} (hA : (Matrix.of A).IsHermitian) (v : Fin r → ℝ) :
    FA.vecMul v (LinAlg.inv r A) = (Matrix.of A)⁻¹ *ᵥ v := by
  rw [← hA.inv.eq, conjTranspose_eq_transpose_of_trivial, Matrix.mulVec_transpose]
  exact vecMul_inv A v

section Precision
variable {r : ℕ} (M : Model C D rU rV ℝ) (L : Fin C → Fin D → Fin r → ℝ) (n : Fin C → ℝ)

theorem faPrecision_posDef (hn : ∀ c, 0 ≤ n c) (hs : ∀ c d, 0 < M.s c d) : (faPrecision M L n).PosDef := by
  have := Pmat_posDef (ι := Unit) (fun _ k => n k.1) (sigmaOf M) (fun _ k => hn k.1) (fun k => hs k.1 k.2) (rowsOf L) ()
  rwa [← idPlus_eq_Pmat] at this

theorem faPrecision_mulVec (x : Fin r → ℝ) :
    faPrecision M L n *ᵥ x = x + projT M L fun c d => n c * apply L x c d := by
  rw [idPlus_eq_Pmat, Pmat_mulVec, projT_eq_bvec]
  simp only [apply_eq_dot]

theorem projT_sub (g g' : Fin C → Fin D → ℝ) :
    projT M L (fun c d => g c d - g' c d) = projT M L g - projT M L g' := by
  funext a
  simp only [projT, sumFin_eq, mul_sub, Finset.sum_sub_distrib, Pi.sub_apply]

/-- `x = P⁻¹ Lᵀ Σ⁻¹ g` reproduces itself from the residual: `x = Lᵀ Σ⁻¹ (g − N L x)` -/
theorem projT_resid_inv (hn : ∀ c, 0 ≤ n c) (hs : ∀ c d, 0 < M.s c d) (g : Fin C → Fin D → ℝ) :
    projT M L (fun c d => g c d - n c * apply L ((faPrecision M L n)⁻¹ *ᵥ projT M L g) c d)
      = (faPrecision M L n)⁻¹ *ᵥ projT M L g := by
  rw [projT_sub, sub_eq_iff_eq_add, ← faPrecision_mulVec, posDef_mul_inv_mulVec (faPrecision_posDef M L n hn hs)]

/-- `inv @ v` (`compute_latent_x`, `estimate_x`) -/
theorem mulVec_idPlusInv (v : Fin r → ℝ) :
    FA.mulVec (idPlusInv M L n) v = (faPrecision M L n)⁻¹ *ᵥ v :=
  mulVec_inv _ v

/-- `v @ inv` (`update_y`) -/
theorem vecMul_idPlusInv (v : Fin r → ℝ) :
    FA.vecMul v (idPlusInv M L n) = (faPrecision M L n)⁻¹ *ᵥ v :=
  vecMul_inv_of_isHermitian (show (faPrecision M L n).IsHermitian from idPlus_eq_Pmat M L n ▸ Pmat_isHermitian ..) v

theorem idPlusInv_eq_postCov :
    Matrix.of (idPlusInv M L n) = postCov (ι := Unit) (fun _ k => n k.1) (sigmaOf M) (rowsOf L) () :=
  congrArg (·⁻¹) (idPlus_eq_Pmat M L n)

/-- `estimate_x`, `compute_latent_x`, `update_y` compute the abstract posterior mean for some `g` -/
theorem inv_mulVec_projT (g : Fin C → Fin D → ℝ) :
    (faPrecision M L n)⁻¹ *ᵥ projT M L g
      = postMean (ι := Unit) (fun _ k => n k.1) (fun _ k => g k.1 k.2) (sigmaOf M) (rowsOf L) () := by
  rw [idPlus_eq_Pmat, projT_eq_bvec]
  rfl
end Precision

/-- `estimate_x` is the posterior mean of the abstract model for the pooled statistics -/
theorem estimateX_eq_postMean (M : Model C D rU rV ℝ) (sts : List (St C D ℝ)) :
    estimateX M sts =
      postMean (ι := Unit) (fun _ k => nAcc sts k.1)
        (fun _ k => fAcc sts k.1 k.2 - M.m k.1 k.2 * nAcc sts k.1)
        (fun k => M.s k.1 k.2) (rowsOf M.U) () :=
  (mulVec_idPlusInv M M.U (nAcc sts) _).trans (inv_mulVec_projT M M.U (nAcc sts) _)
#print axioms estimateX_eq_postMean
