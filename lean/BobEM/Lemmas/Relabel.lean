import BobEM.Lemmas.Real

/-! Renumbering the mixture components by a permutation `σ`: every per-component array is read through
`σ`.  What works per component commutes with it, what sums over the components is invariant. -/

open BobEM

variable {C D : ℕ}

/-- the same mixture with its components numbered differently -/
def BobEM.Params.relabel {C D : ℕ} (p : Params C D ℝ) (σ : Equiv.Perm (Fin C)) : Params C D ℝ :=
  { weights := fun c => p.weights (σ c), means := fun c => p.means (σ c), variances := fun c => p.variances (σ c) }

def BobEM.Params.relabel' {C D : ℕ} (p : Params C D ℝ) (σ : Equiv.Perm (Fin C)) : Params C D ℝ :=
  { weights := fun c => p.weights (σ c), means := fun c => p.means (σ c), variances := fun c => p.variances (σ c) }

def BobEM.Params.relabelM {C D : ℕ} (p : Params C D ℝ) (σ : Equiv.Perm (Fin C)) : Params C D ℝ :=
  { weights := fun c => p.weights (σ c), means := fun c => p.means (σ c), variances := fun c => p.variances (σ c) }
def BobEM.Stats.relabelM {C D : ℕ} (st : Stats C D ℝ) (σ : Equiv.Perm (Fin C)) : Stats C D ℝ :=
  { n := fun c => st.n (σ c), sumPx := fun c => st.sumPx (σ c), sumPxx := fun c => st.sumPxx (σ c), ll := st.ll, t := st.t }
def BobEM.MapCfg.relabelM {C D : ℕ} (cfg : MapCfg C D ℝ) (σ : Equiv.Perm (Fin C)) : MapCfg C D ℝ :=
  { cfg with varFloor := fun c => cfg.varFloor (σ c) }

def BobEM.MlCfg.relabel {C D : ℕ} (cfg : MlCfg C D ℝ) (σ : Equiv.Perm (Fin C)) : MlCfg C D ℝ :=
  { cfg with varFloor := fun c => cfg.varFloor (σ c) }

/- `relabel'` and `relabelM` are `relabel` under the names the C03 and C05 statements use; the lemmas
are stated for `relabel` and reach `relabel'` by `rfl` (C03); C05 proves the `relabelM` case of the MAP M-step itself. -/

theorem lwl_relabel (p : Params C D ℝ) (σ : Equiv.Perm (Fin C)) (x : Fin D → ℝ) (c : Fin C) :
    lwl (p.relabel σ) x c = lwl p x (σ c) := rfl

theorem logLik_relabel (p : Params (C+1) D ℝ) (σ : Equiv.Perm (Fin (C+1))) (x : Fin D → ℝ) :
    logLik (p.relabel σ) x = logLik p x := by
  rw [logLik_eq, logLik_eq]
  exact congrArg Real.log (Equiv.sum_comp σ fun c => Real.exp (lwl p x c))

theorem eStep_relabel (p : Params (C+1) D ℝ) (σ : Equiv.Perm (Fin (C+1))) (xs : List (Fin D → ℝ)) :
    eStep (p.relabel σ) xs = (eStep p xs).relabelM σ := by
  simp only [eStep, Stats.relabelM, lwl_relabel, logLik_relabel, funext (logLik_relabel p σ)]

theorem mlMStep_relabel (cfg : MlCfg C D ℝ) (p : Params C D ℝ) (st : Stats C D ℝ) (t : ℝ)
    (σ : Equiv.Perm (Fin C)) :
    mlMStep (cfg.relabel σ) (p.relabel σ) (st.relabelM σ) t = (mlMStep cfg p st t).relabel σ := by
  -- per component: once the three switches are decided both sides are the same expressions
  obtain ⟨um, uv, uw, thr, fl⟩ := cfg
  cases um <;> cases uv <;> cases uw <;> rfl
