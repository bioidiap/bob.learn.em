import BobEM.Model.FATrain
import BobEM.Lemmas.FAIdent
import BobEM.Lemmas.Fold

/-! Identification of the JFA training phases (`Model/FATrain.lean`) with the abstract EM step of
`Lemmas/LinGauss.lean`.  Every phase is a list of items (classes, sessions, utterances) with counts `n` and
centred statistics `g`; the code adds one contribution per item (`itemAcc`) and solves row by row, which
`solveLoading_eq_emStep` identifies with `emStep` once.  The D phase is the same per supervector entry. -/

open Matrix BobEM BobEM.FA

variable {C D rU rV : ℕ}

section Kernel
variable {r : ℕ} (M : Model C D rU rV ℝ) (L : Fin C → Fin D → Fin r → ℝ)

/-- E-step contribution of one item to the accumulators of the loading `L`: what `eStepV` computes for a class,
`sessAccU` for a session, `IV.contrib` for an utterance -/
noncomputable def itemAcc (n : Fin C → ℝ) (g : Fin C → Fin D → ℝ) : Acc C D r ℝ :=
  let w := FA.mulVec (idPlusInv M L n) (projT M L g)
  { a1 := fun c a b => n c * (idPlusInv M L n a b + w a * w b), a2 := fun c d a => g c d * w a }

variable {β : Type} (l : List β) (n : β → Fin C → ℝ) (g : β → Fin C → Fin D → ℝ)

/-- `NV`, `NU`, `NI` and `FV`, `FU`, `FI` (written with `l[i]`) are these by `rfl`.  `l.get i` for the reason
given at `accA1_list`. -/
def itemN : Fin l.length → Fin C × Fin D → ℝ := fun i k => n (l.get i) k.1
def itemF : Fin l.length → Fin C × Fin D → ℝ := fun i k => g (l.get i) k.1 k.2

variable (acc : Acc C D r ℝ)
  (h1 : ∀ c a b, acc.a1 c a b = (l.map fun q => (itemAcc M L (n q) (g q)).a1 c a b).sum)
  (h2 : ∀ c d a, acc.a2 c d a = (l.map fun q => (itemAcc M L (n q) (g q)).a2 c d a).sum)

include h1 in
theorem a1_eq_accA1 (c : Fin C) (d : Fin D) :
    Matrix.of (acc.a1 c) = accA1 (itemN l n) (itemF l g) (sigmaOf M) (rowsOf L) (c, d) := by
  ext a b
  refine Eq.trans ?_ (accA1_list l (fun q (k : Fin C × Fin D) => n q k.1) (fun q k => g q k.1 k.2) _ _ _ a b).symm
  simp only [of_apply, h1, itemAcc, mulVec_idPlusInv, inv_mulVec_projT, ← idPlusInv_eq_postCov]

include h2 in
theorem a2_eq_accA2 (c : Fin C) (d : Fin D) :
    acc.a2 c d = accA2 (itemN l n) (itemF l g) (sigmaOf M) (rowsOf L) (c, d) := by
  funext a
  refine Eq.trans ?_ (accA2_list l (fun q (k : Fin C × Fin D) => n q k.1) (fun q k => g q k.1 k.2) _ _ _ a).symm
  simp only [h2, itemAcc, mulVec_idPlusInv, inv_mulVec_projT]

include h1 h2 in
/-- Pass `n` and `g` explicitly: asked to find them from `NV`, `FV` … the unifier does not terminate (and no
heartbeat limit stops it). -/
theorem solveLoading_eq_emStep
    (hA1 : ∀ k, (accA1 (itemN l n) (itemF l g) (sigmaOf M) (rowsOf L) k).PosDef) :
    rowsOf (solveLoading acc) = emStep (itemN l n) (itemF l g) (sigmaOf M) (rowsOf L) := by
  funext ⟨c, d⟩
  rw [emStep, ← a1_eq_accA1 M L l n g acc h1 c d, ← a2_eq_accA2 M L l n g acc h2 c d]
  refine Eq.trans ?_ (vecMul_inv_of_isHermitian ?_ (acc.a2 c d))
  · show rowsOf (solveLoading acc) (c, d) = FA.vecMul (acc.a2 c d) (LinAlg.inv r (acc.a1 c))
    rfl
  · rw [a1_eq_accA1 M L l n g acc h1 c d]; exact (hA1 (c, d)).isHermitian
end Kernel

theorem accSum_a1 {r : ℕ} (l : List (Acc C D r ℝ)) (c : Fin C) (a b : Fin r) :
    (Acc.sum l).a1 c a b = (l.map fun x => x.a1 c a b).sum :=
  reduce_proj Acc.add Acc.sum (·.a1 c a b) rfl (fun _ _ => rfl) (fun _ _ => rfl) l
theorem accSum_a2 {r : ℕ} (l : List (Acc C D r ℝ)) (c : Fin C) (d : Fin D) (a : Fin r) :
    (Acc.sum l).a2 c d a = (l.map fun x => x.a2 c d a).sum :=
  reduce_proj Acc.add Acc.sum (·.a2 c d a) rfl (fun _ _ => rfl) (fun _ _ => rfl) l
theorem accDSum_a1 (l : List (AccD C D ℝ)) (c : Fin C) (d : Fin D) :
    (AccD.sum l).a1 c d = (l.map fun x => x.a1 c d).sum :=
  reduce_proj AccD.add AccD.sum (·.a1 c d) rfl (fun _ _ => rfl) (fun _ _ => rfl) l
theorem accDSum_a2 (l : List (AccD C D ℝ)) (c : Fin C) (d : Fin D) :
    (AccD.sum l).a2 c d = (l.map fun x => x.a2 c d).sum :=
  reduce_proj AccD.add AccD.sum (·.a2 c d) rfl (fun _ _ => rfl) (fun _ _ => rfl) l

theorem Acc_sum_eq {r : ℕ} (l : List (Acc C D r ℝ)) :
    Acc.sum l = ⟨fun c a b => (l.map fun x => x.a1 c a b).sum, fun c d a => (l.map fun x => x.a2 c d a).sum⟩ := by
  simp only [← accSum_a1, ← accSum_a2]
theorem AccD_sum_eq (l : List (AccD C D ℝ)) :
    AccD.sum l = ⟨fun c d => (l.map fun x => x.a1 c d).sum, fun c d => (l.map fun x => x.a2 c d).sum⟩ := by
  simp only [← accDSum_a1, ← accDSum_a2]

section VPhase
variable (M : Model C D rU rV ℝ)

theorem uxTerm_zeros (sts : List (St C D ℝ)) : uxTerm M sts (zerosX (rU := rU) sts.length) = fun _ _ => 0 := by
  funext c d
  rw [uxTerm, lsum_eq]
  refine List.sum_eq_zero fun v hv => ?_
  obtain ⟨⟨s, x⟩, hmem, rfl⟩ := List.mem_map.mp hv
  rw [List.eq_of_mem_replicate (List.of_mem_zip hmem).2]
  simp only [apply, sumFin_eq, mul_zero, Finset.sum_const_zero]

theorem fnY_zeros (sts : List (St C D ℝ)) :
    fnY M sts (zerosX (rU := rU) sts.length) zeroZ = fun c d => fAcc sts c d - nAcc sts c * M.m c d := by
  funext c d
  simp only [fnY, uxTerm_zeros, zeroZ, mul_zero, add_zero, sub_zero]

theorem eStepV_eq_itemAcc (sts : List (St C D ℝ)) :
    eStepV M sts = itemAcc M M.V (nAcc sts) fun c d => fAcc sts c d - nAcc sts c * M.m c d := by
  have hy : updateY M sts (zerosX (rU := rU) sts.length) zeroZ
      = FA.mulVec (idPlusInv M M.V (nAcc sts)) (projT M M.V fun c d => fAcc sts c d - nAcc sts c * M.m c d) := by
    rw [← fnY_zeros, mulVec_idPlusInv, ← vecMul_idPlusInv]; rfl
  simp only [eStepV, itemAcc, hy, fnY_zeros]

variable (classes : List (List (St C D ℝ)))

/-- items = classes; counts and centred first-order statistics of class `i` at row `(c, d)` -/
noncomputable def NV : Fin classes.length → Fin C × Fin D → ℝ := fun i k => nAcc classes[i] k.1
noncomputable def FV : Fin classes.length → Fin C × Fin D → ℝ :=
  fun i k => fAcc classes[i] k.1 k.2 - nAcc classes[i] k.1 * M.m k.1 k.2

/-- the V-phase marginal likelihood of the training statistics (up to constants) -/
noncomputable def margV (V : Fin C → Fin D → Fin rV → ℝ) : ℝ :=
  marg (NV classes) (FV M classes) (sigmaOf M) (rowsOf V)

theorem postCov_item (V : Fin C → Fin D → Fin rV → ℝ) (i : Fin classes.length) :
    postCov (NV classes) (sigmaOf M) (rowsOf V) i
      = (Matrix.of fun a b => eye rV a b + prodN { M with V := V } V (nAcc classes[i]) a b)⁻¹ := by
  exact (congrArg (·⁻¹) (idPlus_eq_Pmat { M with V := V } V (nAcc classes[i]))).symm

variable (hn : ∀ sts ∈ classes, ∀ c, 0 ≤ nAcc sts c) (hs : ∀ c d, 0 < M.s c d)
include hn hs in
/-- **one V iteration of the code is the abstract EM step** (rows = supervector entries, items =
classes), provided the accumulated `A1` of every row is positive definite -/
theorem stepV_eq_emStep
    (hA1 : ∀ k, (accA1 (NV classes) (FV M classes) (sigmaOf M) (rowsOf M.V) k).PosDef) :
    rowsOf (stepV M classes).V = emStep (NV classes) (FV M classes) (sigmaOf M) (rowsOf M.V) := by
  refine solveLoading_eq_emStep M M.V classes nAcc (fun sts c d => fAcc sts c d - nAcc sts c * M.m c d) _
    (fun c a b => ?_) (fun c d a => ?_) hA1
  · rw [accSum_a1, funext (eStepV_eq_itemAcc M), List.map_map]; rfl
  · rw [accSum_a2, funext (eStepV_eq_itemAcc M), List.map_map]; rfl
end VPhase

section UPhase
variable (M : Model C D rU rV ℝ)

/-- every session paired with its class's speaker factor, in training order -/
def sessionsOf (classes : List (List (St C D ℝ))) (ys : List (Fin rV → ℝ)) : List (St C D ℝ × (Fin rV → ℝ)) :=
  (classes.zip ys).flatMap fun p => p.1.map fun st => (st, p.2)

variable (sess : List (St C D ℝ × (Fin rV → ℝ)))
noncomputable def NU : Fin sess.length → Fin C × Fin D → ℝ := fun i k => sess[i].1.n k.1
noncomputable def FU : Fin sess.length → Fin C × Fin D → ℝ := fun i k => fnX M sess[i].1 sess[i].2 zeroZ k.1 k.2
/-- the U-phase marginal likelihood (speaker factors fixed at their point estimates) -/
noncomputable def margU (U : Fin C → Fin D → Fin rU → ℝ) : ℝ :=
  marg (NU sess) (FU M sess) (sigmaOf M) (rowsOf U)

variable (classes : List (List (St C D ℝ))) (ys : List (Fin rV → ℝ))

/-- `φ`: any entry of the accumulators (`hφ` is `accSum_a1` or `accSum_a2`) -/
theorem accU_total (φ : Acc C D rU ℝ → ℝ) (hφ : ∀ l : List (Acc C D rU ℝ), φ (Acc.sum l) = (l.map φ).sum) :
    φ (Acc.sum ((classes.zip ys).map fun p => eStepU M p.1 p.2))
      = ((sessionsOf classes ys).map fun q => φ (sessAccU M q.1 q.2 zeroZ)).sum := by
  simp only [hφ, eStepU, sessionsOf, List.flatMap_def, List.map_flatten, List.sum_flatten, List.map_map, Function.comp_def]

/-- items = sessions: `sessAccU` with zero `z` is by definition their `itemAcc` -/
theorem stepU_eq_emStep (classes : List (List (St C D ℝ))) (ys : List (Fin rV → ℝ))
    (hA1 : ∀ k, (accA1 (NU (sessionsOf classes ys)) (FU M (sessionsOf classes ys)) (sigmaOf M) (rowsOf M.U) k).PosDef) :
    rowsOf (stepU M classes ys).U
      = emStep (NU (sessionsOf classes ys)) (FU M (sessionsOf classes ys)) (sigmaOf M) (rowsOf M.U) :=
  solveLoading_eq_emStep M M.U (sessionsOf classes ys) (fun q => q.1.n) (fun q => fnX M q.1 q.2 zeroZ) _
    (fun c a b => accU_total M classes ys (·.a1 c a b) (accSum_a1 · c a b))
    (fun c d a => accU_total M classes ys (·.a2 c d a) (accSum_a2 · c d a)) hA1

end UPhase

/-! ### D phase: one independent one-dimensional problem per supervector entry -/
section DPhase
variable (M : Model C D rU rV ℝ)

/-- the items of the D phase: every class with its fixed channel factors and speaker factor -/
abbrev DItem (C D rU rV : ℕ) := (List (St C D ℝ) × List (Fin rU → ℝ)) × (Fin rV → ℝ)

variable (items : List (DItem C D rU rV))
noncomputable def ND (c : Fin C) : Fin items.length → Unit → ℝ := fun i _ => nAcc items[i].1.1 c
noncomputable def FD (c : Fin C) (d : Fin D) : Fin items.length → Unit → ℝ :=
  fun i _ => fnZ M items[i].1.1 items[i].1.2 items[i].2 c d
/-- the D-phase marginal likelihood: a sum over supervector entries of one-dimensional marginals -/
noncomputable def margD (Dd : Fin C → Fin D → ℝ) : ℝ :=
  ∑ c, ∑ d, marg (ρ := Unit) (ND items c) (FD M items c d) (fun _ => M.s c d) (fun _ _ => Dd c d)

theorem stepD_entry (c : Fin C) (d : Fin D) (hs : 0 < M.s c d) (hn : ∀ q ∈ items, 0 ≤ nAcc q.1.1 c) :
    (AccD.sum (items.map fun q => eStepD M q.1.1 q.1.2 q.2)).a2 c d / (AccD.sum (items.map fun q => eStepD M q.1.1 q.1.2 q.2)).a1 c d
      = emStep (ρ := Unit) (ND items c) (FD M items c d) (fun _ => M.s c d) (fun _ _ => M.Dd c d) () () := by
  simp only [emStep, Matrix.mulVec, dotProduct, Finset.univ_unique, Finset.sum_singleton, inv_unit, PUnit.default_eq_unit]
  rw [accDSum_a1, accDSum_a2, div_eq_inv_mul, List.map_map, List.map_map]
  refine congrArg₂ (·⁻¹ * ·) (Eq.trans ?_ (accA1_list items (fun q _ => nAcc q.1.1 c)
    (fun q _ => fnZ M q.1.1 q.1.2 q.2 c d) _ _ () () ()).symm) (Eq.trans ?_ (accA2_list items (fun q _ => nAcc q.1.1 c)
    (fun q _ => fnZ M q.1.1 q.1.2 q.2 c d) _ _ () ()).symm)
  · simp only [postCov_scalar, postMean_scalar, Function.comp_def, eStepD, updateZ, fnZ]
    exact congrArg List.sum (List.map_congr_left fun q _ => mul_comm _ _)
  · simp only [postMean_scalar, Function.comp_def, eStepD, updateZ, fnZ]
end DPhase

/-- no phase touches the UBM variances (`C09_shapes` has the subspaces) -/
theorem stepV_s (M : Model C D rU rV ℝ) (cl) : (stepV M cl).s = M.s := rfl
theorem stepU_s (M : Model C D rU rV ℝ) (cl ys) : (stepU M cl ys).s = M.s := rfl
theorem stepD_s (M : Model C D rU rV ℝ) (cl xss ys) : (stepD M cl xss ys).s = M.s := rfl

/-! ### Exec form: the materialisation steps read back what `ofFn` stored -/
section Exec
theorem BobEM.FA.materialize_eq (M : Model C D rU rV ℝ) : materialize M = M := by
  cases M
  simp only [materialize, Fin.getElem_fin, Vector.getElem_ofFn]

theorem BobEM.FA.jfaFit_spec (M0 : Model C D rU rV ℝ) (cl : List (List (St C D ℝ))) (k : ℕ) :
    jfaFit M0 cl k =
      (let M1 := iter (fun M => stepV M cl) k M0
       let ys := finalizeV M1 cl
       let M2 := iter (fun M => stepU M cl ys) k M1
       let xss := finalizeU M2 cl ys
       iter (fun M => stepD M cl xss ys) k M2) := by
  -- `v[i]'i.2` is the term `v[i]` without the search for the index proof
  have hv : ∀ {n : ℕ} (f : Fin n → ℝ), (let v := Vector.ofFn f; fun i : Fin n => v[i]'i.2) = f :=
    fun f => funext fun i => Vector.getElem_ofFn i.2
  simp only [jfaFit, FA.materialize_eq, hv, List.map_id']
end Exec
