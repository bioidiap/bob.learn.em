import BobEM.Lemmas.Sched

/-! Worker isolation: tasks run on private copies of the graph literals (the shared objects as of
submission) and only their results travel back; the caller then copies the returned fields into
its own objects. Shape of every trainer's graph: readers that do not write shared locations,
then one writer that also returns what it wrote. -/

variable {Loc Val : Type}

open Classical in
/-- what an isolated task sees: shared locations as of submission, everything else live -/
noncomputable def view (Sh : Set Loc) (s0 s : Loc → Val) : Loc → Val :=
  fun l => if l ∈ Sh then s0 l else s l

open Classical in
/-- isolated execution of one task: computed on the view, only non-shared writes persist -/
noncomputable def RWTask.runIso (t : RWTask Loc Val) (Sh : Set Loc) (s0 s : Loc → Val) : Loc → Val :=
  fun l => if l ∈ t.writes ∧ l ∉ Sh then t.f (view Sh s0 s) l else s l

open Classical in
/-- the caller assigns the returned fields (`ret l` is the result slot holding field `l`) -/
noncomputable def copyBack (F : Set Loc) (ret : Loc → Loc) (s : Loc → Val) : Loc → Val :=
  fun l => if l ∈ F then s (ret l) else s l

section
variable {Sh : Set Loc} {s0 s : Loc → Val}

/-- while the shared locations still hold their submission values, the two modes differ only at
shared locations the task writes -/
theorem RWTask.runIso_apply (t : RWTask Loc Val) (hs : ∀ l ∈ Sh, s l = s0 l) {l : Loc}
    (hl : l ∈ t.writes → l ∉ Sh) : t.runIso Sh s0 s l = t.run s l := by
  have hv : view Sh s0 s = s := funext fun l => by
    unfold view; split_ifs with h
    exacts [(hs l h).symm, rfl]
  unfold RWTask.runIso RWTask.run
  rw [hv]
  by_cases h : l ∈ t.writes
  · rw [if_pos ⟨h, hl h⟩, if_pos h]
  · rw [if_neg fun h' => h h'.1, if_neg h]

theorem readers_iso_eq (rs : List (RWTask Loc Val)) (hw : ∀ t ∈ rs, Disjoint t.writes Sh)
    (hs : ∀ l ∈ Sh, s l = s0 l) :
    rs.foldl (fun s t => t.runIso Sh s0 s) s = rs.foldl (fun s t => t.run s) s ∧
      ∀ l ∈ Sh, rs.foldl (fun s t => t.run s) s l = s0 l := by
  induction rs generalizing s with
  | nil => exact ⟨rfl, hs⟩
  | cons t rs ih =>
    rw [List.forall_mem_cons] at hw
    have hd : ∀ {l}, l ∈ t.writes → l ∉ Sh := fun h => Set.disjoint_left.mp hw.1 h
    rw [List.foldl_cons, List.foldl_cons, funext fun l => t.runIso_apply hs (l := l) hd]
    exact ih hw.2 fun l hl => (t.run_of_not_mem s fun h => hd h hl).trans (hs l hl)

end

/-- **isolated = shared** for readers followed by one writer whose shared writes are all copied
back from (non-shared) result slots. Both modes end with the caller's copy-back, as the code
does (`setattr(self, attr, getattr(new_machine, attr))`, `self._U = compute(...)`). -/
theorem isolated_eq_shared (Sh F : Set Loc) (ret : Loc → Loc) (s0 : Loc → Val)
    (rs : List (RWTask Loc Val)) (w : RWTask Loc Val)
    (hr : ∀ t ∈ rs, Disjoint t.writes Sh)
    (hF : ∀ l, l ∈ w.writes → l ∈ Sh → l ∈ F)            -- copy-back is complete
    (hFw : ∀ l ∈ F, l ∈ w.writes ∧ l ∈ Sh ∧ ret l ∈ w.writes ∧ ret l ∉ Sh) :
    copyBack F ret (w.runIso Sh s0 (rs.foldl (fun s t => t.runIso Sh s0 s) s0))
      = copyBack F ret (w.run (rs.foldl (fun s t => t.run s) s0)) := by
  obtain ⟨heq, hsh⟩ := readers_iso_eq rs hr fun l (_ : l ∈ Sh) => rfl
  rw [heq]
  funext l
  unfold copyBack
  -- the copy-back reads only result slots and locations outside `F`: there the two modes agree
  split_ifs with hl
  · exact w.runIso_apply hsh fun _ => (hFw l hl).2.2.2
  · exact w.runIso_apply hsh fun hw hs => hl (hF l hw hs)
#print axioms isolated_eq_shared
