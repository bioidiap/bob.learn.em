import BobEM.Model.Sched
import Mathlib.Algebra.BigOperators.Group.Finset.Basic
import Mathlib.Tactic

/-! A reduction DAG delivers `Σ_w (number of paths to w) • (result of w)`, whatever its shape. -/

open BobEM.Sched

variable {M : Type} [AddCommMonoid M]

/-- the value a task delivers when every non-worker task adds up the values of its dependencies -/
def dagVal (deps : ℕ → List ℕ) (isW : ℕ → Bool) (leaf : ℕ → M) : ℕ → ℕ → M
  | 0, _ => 0
  | fuel+1, t => if isW t then leaf t else ((deps t).map (dagVal deps isW leaf fuel)).sum

/-- **the value of a reduction DAG**: for every fuel, the value of task `t` is the sum over the workers
of the number of paths from `t` to the worker times the worker's result -/
theorem dagVal_eq_sum_paths (deps : ℕ → List ℕ) (isW : ℕ → Bool) (leaf : ℕ → M) (W : Finset ℕ)
    (hW : ∀ t, isW t = true ↔ t ∈ W) (fuel t : ℕ) :
    dagVal deps isW leaf fuel t = ∑ w ∈ W, pathCountF deps isW fuel w t • leaf w := by
  induction fuel generalizing t with
  | zero => exact (Finset.sum_eq_zero fun w _ => zero_smul ℕ (leaf w)).symm
  | succ fuel ih =>
    rw [dagVal]
    simp only [pathCountF]
    split_ifs with ht
    · simp only [beq_iff_eq, ite_smul, one_smul, zero_smul, Finset.sum_ite_eq', (hW t).mp ht, if_true]
    · rw [List.map_congr_left fun d _ => ih d]
      -- `(Σ_d c_d) • x = Σ_d c_d • x`, then a list sum of sums over `W` turned inside out
      simp_rw [List.sum_smul, List.map_map]
      exact Multiset.sum_map_sum (m := (deps t : Multiset ℕ))

/-- fuel beyond the rank of a task changes nothing (acyclic graph: `rank` decreases along dependencies) -/
theorem dagVal_fuel_stable (deps : ℕ → List ℕ) (isW : ℕ → Bool) (leaf : ℕ → M) (rank : ℕ → ℕ)
    (hr : ∀ t, ∀ d ∈ deps t, rank d < rank t) (t : ℕ) :
    ∀ fuel fuel', rank t < fuel → rank t < fuel' → dagVal deps isW leaf fuel t = dagVal deps isW leaf fuel' t := by
  intro fuel
  induction fuel generalizing t with
  | zero => intro _ h; exact absurd h (Nat.not_lt_zero _)
  | succ f ih =>
    intro fuel' h1 h2
    obtain ⟨f', rfl⟩ := Nat.exists_eq_succ_of_ne_zero (Nat.ne_zero_of_lt h2)
    rw [dagVal, dagVal, List.map_congr_left fun d hd =>
      ih d f' (Nat.lt_of_lt_of_le (hr t d hd) (Nat.le_of_lt_succ h1)) (Nat.lt_of_lt_of_le (hr t d hd) (Nat.le_of_lt_succ h2))]

/-- **exactly once, for any reduction shape**: in an acyclic graph in which every worker is reached
from task `t` along exactly one path, `t` receives exactly the sum of the workers' results — each
once, none dropped, none twice — however the additions are grouped (flat list, pairwise tree, 8-ary
tree, uneven levels) -/
theorem dagVal_exactly_once (deps : ℕ → List ℕ) (isW : ℕ → Bool) (leaf : ℕ → M) (W : Finset ℕ)
    (hW : ∀ t, isW t = true ↔ t ∈ W) (rank : ℕ → ℕ) (hr : ∀ t, ∀ d ∈ deps t, rank d < rank t)
    (t fuel : ℕ) (hf : rank t < fuel) (hone : ∀ w ∈ W, pathCountF deps isW fuel w t = 1)
    (fuel' : ℕ) (hf' : rank t < fuel') :
    dagVal deps isW leaf fuel' t = ∑ w ∈ W, leaf w := by
  rw [dagVal_fuel_stable deps isW leaf rank hr t fuel' fuel hf' hf, dagVal_eq_sum_paths deps isW leaf W hW]
  exact Finset.sum_congr rfl fun w hw => by rw [hone w hw, one_smul]

/-- a worker without a path to `t` is absent from the value of `t`: the value does not change when that worker's
result is replaced by anything else -/
theorem dagVal_dropped_worker_ignored (deps : ℕ → List ℕ) (isW : ℕ → Bool) (leaf leaf' : ℕ → M) (W : Finset ℕ)
    (hW : ∀ t, isW t = true ↔ t ∈ W) (fuel t w0 : ℕ) (h0 : pathCountF deps isW fuel w0 t = 0)
    (hsame : ∀ w, w ≠ w0 → leaf w = leaf' w) :
    dagVal deps isW leaf fuel t = dagVal deps isW leaf' fuel t := by
  rw [dagVal_eq_sum_paths deps isW leaf W hW, dagVal_eq_sum_paths deps isW leaf' W hW]
  refine Finset.sum_congr rfl fun w _ => ?_
  rcases eq_or_ne w w0 with rfl | h
  · rw [h0, zero_smul, zero_smul]
  · rw [hsame w h]

/-- rank of a task id in a dependency-ordered task list: position + 1 for tasks, 0 for anything else
(graph literals, keys of other collections) -/
def rankOf (g : List TaskEff) (t : ℕ) : ℕ := if g.any (fun x => x.id == t) then posOf g t + 1 else 0

theorem posOf_lt_length (g : List TaskEff) (t : ℕ) (h : g.any (fun x => x.id == t) = true) : posOf g t < g.length := by
  rw [posOf, ← List.findIdx_eq_getD_findIdx?]
  exact List.findIdx_lt_length_of_exists (List.any_eq_true.mp h)

theorem rankOf_le (g : List TaskEff) (t : ℕ) : rankOf g t ≤ g.length := by
  unfold rankOf; split_ifs with h
  exacts [posOf_lt_length g t h, Nat.zero_le _]

theorem topoOrdered_rank (g : List TaskEff) (h : topoOrdered g = true) :
    ∀ t, ∀ d ∈ depsOf g t, rankOf g d < rankOf g t := by
  intro t d hd
  unfold depsOf at hd
  split at hd
  next x hf =>
    obtain rfl : x.id = t := by simpa using List.find?_some hf
    have hxg : x ∈ g := List.mem_of_find?_eq_some hf
    have hdd := List.all_eq_true.mp (List.all_eq_true.mp h x hxg) d hd
    have ht : rankOf g x.id = posOf g x.id + 1 := if_pos (List.any_eq_true.mpr ⟨x, hxg, beq_self_eq_true x.id⟩)
    rw [ht, rankOf]
    split_ifs with hdt
    · rw [hdt, Bool.not_true, Bool.or_false, decide_eq_true_eq] at hdd
      exact Nat.succ_lt_succ hdd
    · exact Nat.succ_pos _
  next => exact absurd hd List.not_mem_nil

/-- **soundness of the executable exactly-once check**: a recorded graph that is in dependency order
and passes `exactlyOnce` delivers to its final task exactly the sum of the workers' results, if every
task between them adds up its dependencies -/
theorem exactlyOnce_sound (g : List TaskEff) (final : ℕ) (workers : List ℕ) (leaf : ℕ → M)
    (ht : topoOrdered g = true) (he : exactlyOnce g final workers = true) (fuel : ℕ) (hf : g.length < fuel) :
    dagVal (depsOf g) (fun x => workers.contains x) leaf fuel final = ∑ w ∈ workers.toFinset, leaf w := by
  refine dagVal_exactly_once (depsOf g) _ leaf workers.toFinset (fun t => ?_) (rankOf g) (topoOrdered_rank g ht) final
    (g.length + 1) (Nat.lt_succ_of_le (rankOf_le g final)) (fun w hw => ?_) fuel ((rankOf_le g final).trans_lt hf)
  · rw [List.contains_iff_mem, List.mem_toFinset]
  · -- the check counted exactly one path from `final` to `w`
    exact beq_iff_eq.mp (List.all_eq_true.mp he w (List.mem_toFinset.mp hw))

#print axioms exactlyOnce_sound
