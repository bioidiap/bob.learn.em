import BobEM.Lemmas.KMeansDescent
import BobEM.Lemmas.Loop

/-! k-means training under a similarity of the feature space (C15): a map `φ` that multiplies all
squared distances by one positive constant and commutes with arithmetic means carries a whole
`KMeansMachine.fit` — assignments, centroid updates, kept centroids of empty clusters, the reported
criterion and the iteration at which the relative stopping test fires — to the fit of the mapped
problem.  Uniform scalings with a shift and orthogonal maps are such maps. -/

open BobEM

variable {K D : ℕ}

/-- what k-means needs of a change of coordinates -/
structure KSim (D : ℕ) where
  φ : (Fin D → ℝ) → (Fin D → ℝ)
  σ : ℝ
  σpos : 0 < σ
  dist : ∀ x c, sqDist (φ x) (φ c) = σ * sqDist x c
  mean : ∀ (l : List (Fin D → ℝ)), l ≠ [] → ∀ j,
    (l.map fun x => φ x j).sum / (l.length : ℝ) = φ (fun i => (l.map fun x => x i).sum / (l.length : ℝ)) j

namespace KSim
variable (T : KSim D)

/-- assignments are unchanged (ties are broken by index on both sides) -/
theorem assign_eq (cent : Fin (K+1) → Fin D → ℝ) (x : Fin D → ℝ) :
    assign (fun k => T.φ (cent k)) (T.φ x) = assign cent x := by
  unfold assign argminFin
  simp only [T.dist]
  congr 1
  funext best i
  simp only [mul_lt_mul_iff_right₀ T.σpos]

theorem filter_map_sim (cent : Fin (K+1) → Fin D → ℝ) (xs : List (Fin D → ℝ)) (k : Fin (K+1)) :
    (xs.map T.φ).filter (fun y => assign (fun k => T.φ (cent k)) y = k)
      = (xs.filter fun x => assign cent x = k).map T.φ := by
  simp only [List.filter_map, Function.comp_def, T.assign_eq]

/-- **one iteration is equivariant**: new centroids are the images of the new centroids, the criterion is
multiplied by `σ` -/
theorem kIter_sim (blocks : List (List (Fin D → ℝ))) (cent : Fin (K+1) → Fin D → ℝ) :
    kIter (blocks.map fun b => b.map T.φ) (fun k => T.φ (cent k))
      = ((fun k => T.φ ((kIter blocks cent).1 k)), T.σ * (kIter blocks cent).2) := by
  rw [kIter_eq, kIter_eq, ← List.map_flatten]
  generalize blocks.flatten = xs
  have hd : (kEStep (fun k => T.φ (cent k)) (xs.map T.φ)).dist = T.σ * (kEStep cent xs).dist := by
    simp only [kEStep, lsum_eq, List.map_map, Function.comp_def, T.assign_eq, T.dist, List.sum_map_mul_left]
  refine Prod.ext (funext fun k => ?_) ?_
  · change (kMStep _ (kEStep _ (xs.map T.φ)) _).1 k = T.φ ((kMStep cent (kEStep cent xs) _).1 k)
    rw [kMStep_cent, kMStep_cent, T.filter_map_sim]
    by_cases h : (xs.filter fun x => assign cent x = k) = []
    · simp only [h, List.map_nil, if_true]
    · simp only [h, List.map_eq_nil_iff, if_false, List.length_map, List.map_map, Function.comp_def]
      exact funext (T.mean _ h)
  · simp only [kMStep, hd, List.length_map, mul_div_assoc]
end KSim

/-- a whole fit under a `KSim`, whatever criterion `c0'` the mapped fit is entered with (it is never read) -/
theorem kFit_sim_any (T : KSim D) (thr : Option ℝ) (fuel : ℕ) (c0 c0' : ℝ) (cent0 : Fin (K+1) → Fin D → ℝ)
    (blocks : List (List (Fin D → ℝ))) :
    kFit thr fuel c0' (fun k => T.φ (cent0 k)) (blocks.map fun b => b.map T.φ)
      = ((fun k => T.φ ((kFit thr fuel c0 cent0 blocks).1 k)), (kFit thr fuel c0 cent0 blocks).2) := by
  unfold kFit
  rw [emLoop_prev_irrelevant _ _ _ fuel c0' (T.σ * c0)]
  exact emLoop_sim (kIter blocks) (kIter (blocks.map fun b => b.map T.φ)) (convStop thr) (convStop thr)
    (fun cent k => T.φ (cent k)) (fun c => T.σ * c) (fun cent => T.kIter_sim blocks cent)
    (convStop_scale T.σpos.ne' thr) fuel 0 c0 cent0

/-- **a whole `KMeansMachine.fit` is equivariant** under every `KSim`: same number of iterations, final
centroids mapped, for every chunking, threshold and iteration limit -/
theorem kFit_sim (T : KSim D) (thr : Option ℝ) (fuel : ℕ) (c0 : ℝ) (cent0 : Fin (K+1) → Fin D → ℝ)
    (blocks : List (List (Fin D → ℝ))) :
    kFit thr fuel (T.σ * c0) (fun k => T.φ (cent0 k)) (blocks.map fun b => b.map T.φ)
      = ((fun k => T.φ ((kFit thr fuel c0 cent0 blocks).1 k)), (kFit thr fuel c0 cent0 blocks).2) :=
  kFit_sim_any T thr fuel c0 (T.σ * c0) cent0 blocks
#print axioms kFit_sim

/-- `x ↦ s x + t` with one scale `s ≠ 0` for all features -/
noncomputable def KSim.scaleShift (s : ℝ) (hs : s ≠ 0) (t : Fin D → ℝ) : KSim D where
  φ := fun x d => s * x d + t d
  σ := s * s
  σpos := mul_self_pos.mpr hs
  dist := by
    intro x c
    simp only [sqDist_eq, Finset.mul_sum]
    exact Finset.sum_congr rfl fun d _ => by ring
  mean := by
    intro l hl j
    have hlen : (l.length : ℝ) ≠ 0 := Nat.cast_ne_zero.mpr (List.length_pos_iff.mpr hl).ne'
    rw [List.sum_map_add, List.sum_map_mul_left, List.map_const', List.sum_replicate, nsmul_eq_mul, add_div,
      mul_div_assoc, mul_div_cancel_left₀ _ hlen]

/-- an orthogonal map `x ↦ Q x` -/
noncomputable def KSim.rotation (Q : Matrix (Fin D) (Fin D) ℝ) (hQ : Q.transpose * Q = 1) : KSim D where
  φ := Q.mulVec
  σ := 1
  σpos := one_pos
  dist := fun x c => by
    rw [one_mul, sqDist_eq_dot, sqDist_eq_dot, ← Matrix.mulVec_sub, Matrix.dotProduct_mulVec, Matrix.vecMul_mulVec, hQ,
      Matrix.vecMul_one]
  mean := fun l _ j => by
    have hsum : ∀ l : List (Fin D → ℝ), (l.map fun x => Q.mulVec x j).sum = Q.mulVec (fun i => (l.map fun x => x i).sum) j := by
      intro l
      induction l with
      | nil => simp [Matrix.mulVec, dotProduct]
      | cons x l ih => rw [List.map_cons, List.sum_cons, ih, ← Pi.add_apply, ← Matrix.mulVec_add]; rfl
    rw [hsum, div_eq_inv_mul, ← smul_eq_mul, ← Pi.smul_apply, ← Matrix.mulVec_smul]
    exact congrFun (congrArg _ (funext fun i => (div_eq_inv_mul _ _).symm)) j
