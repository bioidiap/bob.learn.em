import BobEM.Model.Gmm
import Mathlib.Analysis.SpecialFunctions.Log.Basic
import Mathlib.Algebra.BigOperators.Fin
import Mathlib.Tactic

noncomputable instance : Transc ℝ := ⟨Real.exp, Real.log, Real.sqrt, Real.pi, fun n => (n : ℝ), fun x => decide (x = 0)⟩

open BobEM

theorem sumFin_eq (n : Nat) (f : Fin n → ℝ) : sumFin n f = ∑ i, f i := by
  unfold sumFin
  induction n with
  | zero => simp [Fin.foldl_zero]
  | succ k ih => rw [Fin.foldl_succ_last, Fin.sum_univ_castSucc, ← ih]

theorem lsum_eq (l : List ℝ) : lsum l = l.sum := by
  unfold lsum
  rw [List.sum_eq_foldl]

/-- the bridge from the model's sample lists to statements indexed by a `Fintype` -/
theorem lsum_map_eq_sum {β : Type} (xs : List β) (f : β → ℝ) :
    lsum (xs.map f) = ∑ i : Fin xs.length, f xs[i.1] := by
  rw [lsum_eq, Fin.sum_univ_fun_getElem]

theorem sumFin_comp_equiv {n : ℕ} (σ : Equiv.Perm (Fin n)) (f : Fin n → ℝ) :
    sumFin n (fun c => f (σ c)) = sumFin n f := by
  rw [sumFin_eq, sumFin_eq, Equiv.sum_comp σ f]

theorem absv_eq (a : ℝ) : absv a = |a| := by
  unfold absv; split_ifs with h
  · exact (abs_of_neg h).symm
  · exact (abs_of_nonneg (not_lt.mp h)).symm

theorem logaddexp_eq (a b : ℝ) : logaddexp a b = Real.log (Real.exp a + Real.exp b) := by
  unfold logaddexp
  simp only [Transc.exp, Transc.log, absv_eq]
  -- `max − |a − b| = min`, and `exp max + exp min = exp a + exp b`
  rw [← Real.log_exp (max a b), ← Real.log_mul (Real.exp_pos _).ne' (by positivity)]
  congr 1
  rw [mul_add, mul_one, ← Real.exp_add, ← sub_eq_add_neg, ← max_sub_min_eq_abs', sub_sub_cancel,
    Real.exp_monotone.map_max, Real.exp_monotone.map_min, max_add_min]

theorem sum_exp_pos {κ : Type} [Fintype κ] [Nonempty κ] (a : κ → ℝ) : 0 < ∑ c, Real.exp (a c) :=
  Finset.sum_pos (fun _ _ => Real.exp_pos _) Finset.univ_nonempty

theorem logaddexpReduce_eq (C : Nat) (a : Fin (C+1) → ℝ) :
    logaddexpReduce C a = Real.log (∑ c, Real.exp (a c)) := by
  unfold logaddexpReduce
  induction C with
  | zero => simp [Fin.foldl_zero]
  | succ k ih =>
    rw [Fin.foldl_succ_last]
    have := ih (fun i => a i.castSucc)
    simp only [Fin.succ_castSucc] at this ⊢
    rw [show (a 0) = a (Fin.castSucc 0) from rfl, this, logaddexp_eq, Real.exp_log, Fin.sum_univ_castSucc (n := k+1)]
    · rfl
    · exact sum_exp_pos _

theorem logLik_eq {C D : ℕ} (p : Params (C+1) D ℝ) (x : Fin D → ℝ) :
    logLik p x = Real.log (∑ c, Real.exp (lwl p x c)) := logaddexpReduce_eq C _

theorem softmax_sum_one {κ : Type} [Fintype κ] [Nonempty κ] (a : κ → ℝ) :
    ∑ c, Real.exp (a c - Real.log (∑ c, Real.exp (a c))) = 1 := by
  simp only [Real.exp_sub, ← Finset.sum_div, Real.exp_log (sum_exp_pos a)]
  exact div_self (sum_exp_pos a).ne'
