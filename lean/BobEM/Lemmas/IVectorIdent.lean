import BobEM.Model.IVector
import BobEM.Lemmas.FATrainIdent
import BobEM.Lemmas.LinGaussSigma
import BobEM.Lemmas.Fold

/-! Identification of the i-vector extractor (`Model/IVector.lean`) with the abstract linear-Gaussian model:
rows = (component, feature), items = training statistics, loading rows = rows of `T`.  The extractor is the
FA model whose only subspace is `T` (`toFA`), so what concerns one statistic is an instance of
`Lemmas/FATrainIdent.lean`; `IV.Stats` is a commutative monoid and `e_step` the sum of the contributions. -/

open BobEM BobEM.IV

variable {C D R : ℕ}

def rowsT (T : Fin C → Fin D → Fin R → ℝ) : Fin C × Fin D → Fin R → ℝ := fun k a => T k.1 k.2 a
def sigmaK (sigma : Fin C → Fin D → ℝ) : Fin C × Fin D → ℝ := fun k => sigma k.1 k.2

/-- the extractor as an FA model: `U := T`, no speaker subspace, no diagonal term -/
def toFA (m : Machine C D R ℝ) : FA.Model C D R 0 ℝ :=
  { m := m.ubmMeans, s := m.sigma, U := m.T, V := fun _ _ a => a.elim0, Dd := fun _ _ => 0 }

theorem BobEM.IV.precision_posDef (m : Machine C D R ℝ) (n : Fin C → ℝ) (hn : ∀ c, 0 ≤ n c) (hs : ∀ c d, 0 < m.sigma c d) :
    (Matrix.of (precision m n) : Matrix (Fin R) (Fin R) ℝ).PosDef := faPrecision_posDef (toFA m) m.T n hn hs

/-- the i-vector twin of `estimateX_eq_postMean` -/
theorem BobEM.IV.project_eq_postMean (m : Machine C D R ℝ) (st : GStat C D ℝ) :
    project m st = postMean (ι := Unit) (fun _ k => st.n k.1)
      (fun _ k => st.f k.1 k.2 - st.n k.1 * m.ubmMeans k.1 k.2) (sigmaK m.sigma) (rowsT m.T) () :=
  (mulVec_idPlusInv (toFA m) m.T st.n _).trans (inv_mulVec_projT (toFA m) m.T st.n _)

theorem BobEM.IV.materialize_eq (m : Machine C D R ℝ) : IV.materialize m = m := by
  cases m
  simp only [IV.materialize, Fin.getElem_fin, Vector.getElem_ofFn]

theorem stats_add_assoc (a b c : IV.Stats C D R ℝ) : (a.add b).add c = a.add (b.add c) := by
  simp [IV.Stats.add, add_assoc]
theorem stats_add_comm (a b : IV.Stats C D R ℝ) : a.add b = b.add a := by simp [IV.Stats.add, add_comm]
theorem stats_zero_add (a : IV.Stats C D R ℝ) : IV.Stats.zero.add a = a := by simp [IV.Stats.add, IV.Stats.zero]
theorem stats_add_zero (a : IV.Stats C D R ℝ) : a.add IV.Stats.zero = a := by simp [IV.Stats.add, IV.Stats.zero]

noncomputable instance : Add (IV.Stats C D R ℝ) := ⟨IV.Stats.add⟩
noncomputable instance : Zero (IV.Stats C D R ℝ) := ⟨IV.Stats.zero⟩
noncomputable instance : AddCommMonoid (IV.Stats C D R ℝ) where
  add_assoc := stats_add_assoc
  zero_add := stats_zero_add
  add_zero := stats_add_zero
  add_comm := stats_add_comm
  nsmul := nsmulRec

namespace BobEM.IV
theorem eStep_eq_sum (m : Machine C D R ℝ) (l : List (GStat C D ℝ)) : IV.eStep m l = (l.map (contrib m)).sum := by
  rw [List.sum_eq_foldl, List.foldl_map]; rfl

theorem eStep_cons (m : Machine C D R ℝ) (x : GStat C D ℝ) (l : List (GStat C D ℝ)) :
    IV.eStep m (x :: l) = (contrib m x).add (IV.eStep m l) := by
  simp only [eStep_eq_sum, List.map_cons, List.sum_cons]; rfl

theorem eStep_flatten (m : Machine C D R ℝ) (parts : List (List (GStat C D ℝ))) :
    IV.eStep m parts.flatten = (parts.map (IV.eStep m)).sum := by
  simp only [funext (eStep_eq_sum m), eStep_eq_sum, List.map_flatten, List.sum_flatten, List.map_map, Function.comp_def]

theorem eStep_partition (m : Machine C D R ℝ) (parts : List (List (GStat C D ℝ))) :
    (parts.map (IV.eStep m)).foldl IV.Stats.add IV.Stats.zero = IV.eStep m parts.flatten :=
  (List.sum_eq_foldl (xs := parts.map (IV.eStep m))).symm.trans (eStep_flatten m parts).symm

theorem eStep_field (m : Machine C D R ℝ) (l : List (GStat C D ℝ)) (φ : IV.Stats C D R ℝ → ℝ)
    (h0 : φ IV.Stats.zero = 0) (hadd : ∀ x y, φ (x.add y) = φ x + φ y) :
    φ (IV.eStep m l) = (l.map fun st => φ (contrib m st)).sum := by
  rw [IV.eStep, ← List.foldl_map, foldl_add_proj _ φ hadd, h0, zero_add, List.map_map]; rfl

theorem eStep_nsw2 (m : Machine C D R ℝ) (l : List (GStat C D ℝ)) (c : Fin C) (t u : Fin R) :
    (IV.eStep m l).nsw2 c t u = (l.map fun st => (contrib m st).nsw2 c t u).sum :=
  eStep_field m l (·.nsw2 c t u) rfl fun _ _ => rfl
theorem eStep_fsw (m : Machine C D R ℝ) (l : List (GStat C D ℝ)) (c : Fin C) (d : Fin D) (t : Fin R) :
    (IV.eStep m l).fsw c d t = (l.map fun st => (contrib m st).fsw c d t).sum :=
  eStep_field m l (·.fsw c d t) rfl fun _ _ => rfl
theorem eStep_nij (m : Machine C D R ℝ) (l : List (GStat C D ℝ)) (c : Fin C) :
    (IV.eStep m l).nij c = (l.map fun st => st.n c).sum :=
  eStep_field m l (·.nij c) rfl fun _ _ => rfl

theorem eStep_perm (m : Machine C D R ℝ) {l l' : List (GStat C D ℝ)} (h : l.Perm l') : IV.eStep m l = IV.eStep m l' := by
  rw [eStep_eq_sum, eStep_eq_sum]; exact (h.map _).sum_eq

/-- an iteration is the M-step on the statistics of all partitions together; the C10 theorems are stated in this form -/
theorem iterate_eq (parts : List (List (GStat C D ℝ))) (upd : Bool) (floor : ℝ) (m : Machine C D R ℝ) :
    iterate parts upd floor m = mStep m (IV.eStep m parts.flatten) upd floor := by
  rw [iterate, materialize_eq, eStep_partition]

theorem iterate_perm {parts parts' : List (List (GStat C D ℝ))} (h : parts.flatten.Perm parts'.flatten)
    (upd : Bool) (floor : ℝ) (m : Machine C D R ℝ) : iterate parts upd floor m = iterate parts' upd floor m := by
  rw [iterate_eq, iterate_eq, eStep_perm m h]

end BobEM.IV

/-- the two quantities `IV.mStep` computes before clamping: the solved loading entry and the raw covariance estimate -/
noncomputable def ivX (st : IV.Stats C D R ℝ) (c : Fin C) (t : Fin R) (d : Fin D) : ℝ :=
  if IV.anyNonzero (st.nsw2 c) then sumFin R fun u => LinAlg.inv R (fun x y => st.nsw2 c y x) t u * st.fsw c d u else 0
noncomputable def ivRaw (sig : Fin C → Fin D → ℝ) (st : IV.Stats C D R ℝ) (c : Fin C) (d : Fin D) : ℝ :=
  if Transc.isZero (st.nij c) then sig c d else (st.snorm c d - sumFin R fun t => st.fsw c d t * ivX st c t d) / st.nij c

theorem mStep_eq (m : IV.Machine C D R ℝ) (st : IV.Stats C D R ℝ) (upd : Bool) (floor : ℝ) :
    IV.mStep m st upd floor = ⟨m.ubmMeans, fun c d t => ivX st c t d,
      if upd then fun c d => if ivRaw m.sigma st c d < floor then floor else ivRaw m.sigma st c d else m.sigma⟩ := rfl

/-- the variance clamp of `m_step` -/
theorem clamp_eq_max (raw floor : ℝ) : (if raw < floor then floor else raw) = max floor raw :=
  (max_def_lt raw floor).symm.trans (max_comm _ _)

theorem mStep_sigma (m : IV.Machine C D R ℝ) (st : IV.Stats C D R ℝ) (floor : ℝ) (c : Fin C) (d : Fin D) :
    (mStep m st true floor).sigma c d = max floor (ivRaw m.sigma st c d) :=
  clamp_eq_max _ _

section EM
variable (m : Machine C D R ℝ) (sts : List (GStat C D ℝ))
noncomputable def NI : Fin sts.length → Fin C × Fin D → ℝ := fun i k => sts[i].n k.1
noncomputable def FI : Fin sts.length → Fin C × Fin D → ℝ := fun i k => sts[i].f k.1 k.2 - sts[i].n k.1 * m.ubmMeans k.1 k.2

/-- `contrib` is by definition the item contribution of the FA kernel of `toFA m` -/
theorem ivA1_eq (c : Fin C) (d : Fin D) :
    (Matrix.of ((IV.eStep m sts).nsw2 c) : Matrix (Fin R) (Fin R) ℝ)
      = accA1 (NI sts) (FI m sts) (sigmaK m.sigma) (rowsT m.T) (c, d) :=
  a1_eq_accA1 (toFA m) m.T sts (·.n) (fun st c d => st.f c d - st.n c * m.ubmMeans c d)
    ⟨(IV.eStep m sts).nsw2, (IV.eStep m sts).fsw⟩ (eStep_nsw2 m sts) c d
theorem ivA2_eq (c : Fin C) (d : Fin D) :
    (IV.eStep m sts).fsw c d = accA2 (NI sts) (FI m sts) (sigmaK m.sigma) (rowsT m.T) (c, d) :=
  a2_eq_accA2 (toFA m) m.T sts (·.n) (fun st c d => st.f c d - st.n c * m.ubmMeans c d)
    ⟨(IV.eStep m sts).nsw2, (IV.eStep m sts).fsw⟩ (eStep_fsw m sts) c d

theorem anyNonzero_of_diag_ne_zero (A : Fin R → Fin R → ℝ) (a : Fin R) (h : A a a ≠ 0) : anyNonzero A = true := by
  simp only [anyNonzero, List.any_eq_true, List.mem_finRange, true_and]
  exact ⟨a, a, by simp [Transc.isZero, h]⟩

/-- `m_step` solves the same system as `solveLoading` (`inv(A1ᵀ) A2` against `A2 inv(A1)`) -/
theorem mStep_T (st : IV.Stats C D R ℝ) (upd : Bool) (floor : ℝ) (c : Fin C) (h : anyNonzero (st.nsw2 c) = true) :
    (mStep m st upd floor).T c = FA.solveLoading ⟨st.nsw2, st.fsw⟩ c := by
  funext d t
  simp only [mStep_eq, ivX, h, if_true, FA.solveLoading, LinAlg.inv, sumFin_eq]
  refine Finset.sum_congr rfl fun u _ => ?_
  rw [mul_comm]
  exact congrArg (_ * ·) (congrFun (congrFun (Matrix.transpose_nonsing_inv (Matrix.of (st.nsw2 c))).symm t) u)

/-- the `T` update of the code is the abstract EM step -/
theorem mStep_T_eq_emStep (upd : Bool) (floor : ℝ)
    (hA1 : ∀ k, (accA1 (NI sts) (FI m sts) (sigmaK m.sigma) (rowsT m.T) k).PosDef) :
    rowsT (mStep m (IV.eStep m sts) upd floor).T = emStep (NI sts) (FI m sts) (sigmaK m.sigma) (rowsT m.T) := by
  refine Eq.trans ?_ (solveLoading_eq_emStep (toFA m) m.T sts (·.n) (fun st c d => st.f c d - st.n c * m.ubmMeans c d)
    ⟨(IV.eStep m sts).nsw2, (IV.eStep m sts).fsw⟩ (eStep_nsw2 m sts) (eStep_fsw m sts) hA1)
  funext ⟨c, d⟩ t
  have hPD := hA1 (c, d)
  rw [← ivA1_eq m sts c d] at hPD
  exact congrFun (congrFun (mStep_T m _ upd floor c (anyNonzero_of_diag_ne_zero _ t (hPD.diag_pos (i := t)).ne')) d) t

/-- marginal likelihood of the training statistics for fixed covariances (up to constants) -/
noncomputable def margI (T : Fin C → Fin D → Fin R → ℝ) : ℝ :=
  marg (NI sts) (FI m sts) (sigmaK m.sigma) (rowsT T)

end EM

section SigmaEM
variable (m : Machine C D R ℝ) (sts : List (GStat C D ℝ))

/-- accumulated centred second-order statistics of row `(c, d)` -/
noncomputable def SI : Fin C × Fin D → ℝ := fun k => (IV.eStep m sts).snorm k.1 k.2

/-- full marginal likelihood of the training statistics, covariances included (up to constants) -/
noncomputable def margIS (T : Fin C → Fin D → Fin R → ℝ) (sigma : Fin C → Fin D → ℝ) : ℝ :=
  margS (NI sts) (FI m sts) (SI m sts) (sigmaK sigma) (rowsT T)

theorem mStep_sigma_eq_sigmaStep (floor : ℝ)
    (hA1 : ∀ k, (accA1 (NI sts) (FI m sts) (sigmaK m.sigma) (rowsT m.T) k).PosDef)
    (hNtot : ∀ k : Fin C × Fin D, 0 < ∑ i, NI sts i k) :
    sigmaK (mStep m (IV.eStep m sts) true floor).sigma
      = sigmaStep (NI sts) (FI m sts) (SI m sts) (fun _ => floor) (sigmaK m.sigma) (rowsT m.T) := by
  funext ⟨c, d⟩
  have hnij : (IV.eStep m sts).nij c = ∑ i, NI sts i (c, d) := by
    rw [eStep_nij, ← Fin.sum_univ_fun_getElem sts (fun st => st.n c)]; rfl
  have hT : ∀ t, ivX (IV.eStep m sts) c t d = emStep (NI sts) (FI m sts) (sigmaK m.sigma) (rowsT m.T) (c, d) t :=
    congrFun (congrFun (mStep_T_eq_emStep m sts true floor hA1) (c, d))
  have hnz : Transc.isZero (∑ i, NI sts i (c, d)) = false := decide_eq_false (hNtot (c, d)).ne'
  simp only [sigmaK, mStep_sigma, ivRaw, hnij, hnz, Bool.false_eq_true, if_false, hT, ivA2_eq m sts c d, sumFin_eq]
  rw [sigmaStep, resid, dotProduct_comm]
  rfl
end SigmaEM
