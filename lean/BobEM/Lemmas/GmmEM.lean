import BobEM.Lemmas.Real

/-! The EM argument for GMMs.  `em_lower_bound` (`y + 1 ≤ exp y`, summed with the softmax weights) gives the EM
inequality `gmmEM_gain_le`: the gain of the auxiliary function bounds the gain in log-likelihood from below.  An M-step
theorem then shows that each term of the auxiliary function gains: the weights by Gibbs' inequality (`weights_gain`), the
means by least squares (`Sq_pen_decomp`), the variances by `log x ≤ x − 1` (`gauss_gain_var`). -/

open Finset BobEM

variable {C D : ℕ}

theorem em_lower_bound {κ : Type} [Fintype κ] [Nonempty κ] (a b : κ → ℝ) :
    ∑ c, Real.exp (a c - Real.log (∑ c, Real.exp (a c))) * (b c - a c)
      ≤ Real.log (∑ c, Real.exp (b c)) - Real.log (∑ c, Real.exp (a c)) := by
  have ha := softmax_sum_one a
  have hb := softmax_sum_one b
  set la := Real.log (∑ c, Real.exp (a c))
  set lb := Real.log (∑ c, Real.exp (b c))
  -- `y + 1 ≤ exp y` at `y = b c - a c - (lb - la)`, times the softmax weight of `a`; then sum over `c`
  have h : ∀ c, Real.exp (a c - la) * (b c - a c)
      ≤ Real.exp (b c - lb) + Real.exp (a c - la) * (lb - la - 1) := fun c => by
    have := mul_le_mul_of_nonneg_left (Real.add_one_le_exp (b c - a c - (lb - la))) (Real.exp_pos (a c - la)).le
    rw [← Real.exp_add, show a c - la + (b c - a c - (lb - la)) = b c - lb by ring] at this
    linarith
  have hs := Finset.sum_le_sum fun c (_ : c ∈ univ) => h c
  rw [sum_add_distrib, ← sum_mul, ha, hb] at hs
  linarith

/-- responsibility of component c for sample x -/
noncomputable def resp (p : Params (C+1) D ℝ) (x : Fin D → ℝ) (c : Fin (C+1)) : ℝ :=
  Real.exp (lwl p x c - logLik p x)

theorem resp_sum_one (p : Params (C+1) D ℝ) (x : Fin D → ℝ) : ∑ c, resp p x c = 1 := by
  unfold resp; rw [logLik_eq]; exact softmax_sum_one _

theorem resp_pos (p : Params (C+1) D ℝ) (x : Fin D → ℝ) (c) : 0 < resp p x c := Real.exp_pos _

section Q
variable {ι : Type} [Fintype ι]

noncomputable def Nst (p : Params (C+1) D ℝ) (X : ι → Fin D → ℝ) (c : Fin (C+1)) : ℝ :=
  ∑ i, resp p (X i) c
noncomputable def Fst (p : Params (C+1) D ℝ) (X : ι → Fin D → ℝ) (c : Fin (C+1)) (d : Fin D) : ℝ :=
  ∑ i, resp p (X i) c * X i d
noncomputable def Sst (p : Params (C+1) D ℝ) (X : ι → Fin D → ℝ) (c : Fin (C+1)) (d : Fin D) : ℝ :=
  ∑ i, resp p (X i) c * X i d * X i d
/-- responsibility-weighted sum of squared deviations from `m` -/
noncomputable def Sq (p : Params (C+1) D ℝ) (X : ι → Fin D → ℝ) (c : Fin (C+1)) (d : Fin D) (m : ℝ) : ℝ :=
  Sst p X c d - 2 * m * Fst p X c d + m * m * Nst p X c

theorem Sq_eq (p : Params (C+1) D ℝ) (X : ι → Fin D → ℝ) (c d m) :
    Sq p X c d m = ∑ i, resp p (X i) c * ((X i d - m) * (X i d - m)) := by
  unfold Sq Sst Fst Nst
  rw [Finset.mul_sum, Finset.mul_sum, ← Finset.sum_sub_distrib, ← Finset.sum_add_distrib]
  exact Finset.sum_congr rfl fun i _ => by ring

theorem lwl_diff (p p' : Params (C+1) D ℝ) (x : Fin D → ℝ) (c : Fin (C+1)) :
    lwl p' x c - lwl p x c =
      (Real.log (p'.weights c) - Real.log (p.weights c)) +
      ∑ d, (-(1/2 : ℝ)) * ((Real.log (p'.variances c d) - Real.log (p.variances c d)) +
        ((x d - p'.means c d) * (x d - p'.means c d) / p'.variances c d
          - (x d - p.means c d) * (x d - p.means c d) / p.variances c d)) := by
  unfold lwl gNorm
  simp only [sumFin_eq, Transc.log]
  rw [← Finset.mul_sum, Finset.sum_add_distrib, Finset.sum_sub_distrib, Finset.sum_sub_distrib]
  ring

theorem Q_expand (p p' : Params (C+1) D ℝ) (X : ι → Fin D → ℝ) :
    ∑ i, ∑ c, resp p (X i) c * (lwl p' (X i) c - lwl p (X i) c) =
    ∑ c, (Nst p X c * (Real.log (p'.weights c) - Real.log (p.weights c))
      + ∑ d, (-(1/2 : ℝ)) * (Nst p X c * (Real.log (p'.variances c d) - Real.log (p.variances c d))
          + (Sq p X c d (p'.means c d) / p'.variances c d - Sq p X c d (p.means c d) / p.variances c d))) := by
  rw [Finset.sum_comm]
  refine Finset.sum_congr rfl fun c _ => ?_
  conv_lhs => enter [2, i]; rw [lwl_diff, mul_add, Finset.mul_sum]
  rw [Finset.sum_add_distrib, Finset.sum_comm, ← Finset.sum_mul]
  refine congrArg _ (Finset.sum_congr rfl fun d _ => ?_)
  rw [Sq_eq, Sq_eq, Finset.sum_div, Finset.sum_div, Nst, Finset.sum_mul, ← Finset.sum_sub_distrib,
    ← Finset.sum_add_distrib, Finset.mul_sum]
  exact Finset.sum_congr rfl fun i _ => by ring

/-- **EM inequality**: the gain of the auxiliary function from `p` to `p'`, in the statistics `Nst`, `Sq`
of `p`, is at most the gain in total log-likelihood; an M-step theorem bounds this left side from below -/
theorem gmmEM_gain_le (p p' : Params (C+1) D ℝ) (X : ι → Fin D → ℝ) :
    ∑ c, (Nst p X c * (Real.log (p'.weights c) - Real.log (p.weights c))
      + ∑ d, (-(1/2 : ℝ)) * (Nst p X c * (Real.log (p'.variances c d) - Real.log (p.variances c d))
          + (Sq p X c d (p'.means c d) / p'.variances c d - Sq p X c d (p.means c d) / p.variances c d)))
      ≤ ∑ i, logLik p' (X i) - ∑ i, logLik p (X i) := by
  rw [← Q_expand, ← Finset.sum_sub_distrib]
  refine Finset.sum_le_sum fun i _ => ?_
  simp only [resp, logLik_eq]
  exact em_lower_bound (lwl p (X i)) (lwl p' (X i))

theorem Nst_sum (p : Params (C+1) D ℝ) (X : ι → Fin D → ℝ) :
    ∑ c, Nst p X c = Fintype.card ι := by
  unfold Nst
  rw [Finset.sum_comm]
  simp only [resp_sum_one, Finset.sum_const, Finset.card_univ, nsmul_eq_mul, mul_one]

/-- least squares with `r` pseudo-observations at `μ0`, around its minimiser `(F + r μ0) / (N + r)`;
`r = 0` is `Sq_decomp`, the relevance factor gives `penalised_ls` -/
theorem Sq_pen_decomp (p : Params (C+1) D ℝ) (X : ι → Fin D → ℝ) (c d) (r μ0 m : ℝ) (hr : Nst p X c + r ≠ 0) :
    Sq p X c d m + r * ((m - μ0) * (m - μ0))
      = Sq p X c d ((Fst p X c d + r * μ0) / (Nst p X c + r))
        + r * (((Fst p X c d + r * μ0) / (Nst p X c + r) - μ0) * ((Fst p X c d + r * μ0) / (Nst p X c + r) - μ0))
        + (Nst p X c + r) * (((Fst p X c d + r * μ0) / (Nst p X c + r) - m) * ((Fst p X c d + r * μ0) / (Nst p X c + r) - m)) := by
  have hm := div_mul_cancel₀ (Fst p X c d + r * μ0) hr
  set m' := (Fst p X c d + r * μ0) / (Nst p X c + r)
  unfold Sq
  linear_combination (2 * (m - m')) * hm

end Q

section MStep
variable {ι : Type} [Fintype ι] [Nonempty ι]

theorem Nst_pos (p : Params (C+1) D ℝ) (X : ι → Fin D → ℝ) (c) : 0 < Nst p X c :=
  Finset.sum_pos (fun i _ => resp_pos p (X i) c) Finset.univ_nonempty

/-- weighted least squares decomposition -/
theorem Sq_decomp (p : Params (C+1) D ℝ) (X : ι → Fin D → ℝ) (c d) (m : ℝ) :
    Sq p X c d m = Sq p X c d (Fst p X c d / Nst p X c)
      + Nst p X c * ((Fst p X c d / Nst p X c - m) * (Fst p X c d / Nst p X c - m)) := by
  simpa using Sq_pen_decomp p X c d 0 0 m (by simpa using (Nst_pos p X c).ne')

/-- the penalised weighted least squares problem is solved by the relevance blend -/
theorem penalised_ls (p : Params (C+1) D ℝ) (X : ι → Fin D → ℝ) (c d) (r μ0 m : ℝ) (hr : 0 ≤ r) :
    Sq p X c d ((Fst p X c d + r * μ0) / (Nst p X c + r))
        + r * (((Fst p X c d + r * μ0) / (Nst p X c + r) - μ0) * ((Fst p X c d + r * μ0) / (Nst p X c + r) - μ0))
      ≤ Sq p X c d m + r * ((m - μ0) * (m - μ0)) := by
  have hNr : 0 < Nst p X c + r := add_pos_of_pos_of_nonneg (Nst_pos p X c) hr
  rw [Sq_pen_decomp p X c d r μ0 m hNr.ne']
  exact le_add_of_nonneg_right (mul_nonneg hNr.le (mul_self_nonneg _))

theorem Sq_mean_le (p : Params (C+1) D ℝ) (X : ι → Fin D → ℝ) (c d) (m : ℝ) :
    Sq p X c d (Fst p X c d / Nst p X c) ≤ Sq p X c d m := by
  simpa using penalised_ls p X c d 0 0 m le_rfl

/-- Gibbs: the ML weights maximise Σ N_c log w_c over sub-probability weights -/
theorem weights_gain (p : Params (C+1) D ℝ) (X : ι → Fin D → ℝ)
    (hw : ∀ c, 0 < p.weights c) (hsum : ∑ c, p.weights c ≤ 1) :
    0 ≤ ∑ c, Nst p X c * (Real.log (Nst p X c / Fintype.card ι) - Real.log (p.weights c)) := by
  have hT : (0:ℝ) < Fintype.card ι := Nat.cast_pos.mpr Fintype.card_pos
  -- termwise `log x ≤ x - 1` at `x = w_c / (N_c / T)`; the bounds add up to `T - T Σ w ≥ 0`
  calc (0:ℝ) ≤ ∑ c, (Nst p X c - Fintype.card ι * p.weights c) := by
        rw [Finset.sum_sub_distrib, ← Finset.mul_sum, Nst_sum]
        exact sub_nonneg.mpr (mul_le_of_le_one_right hT.le hsum)
    _ ≤ _ := Finset.sum_le_sum fun c _ => ?_
  have hN := Nst_pos p X c
  have hq := div_pos hN hT
  have h := Real.log_le_sub_one_of_pos (div_pos (hw c) hq)
  rw [Real.log_div (hw c).ne' hq.ne', div_div_eq_mul_div, le_sub_iff_add_le, le_div_iff₀ hN] at h
  linarith

/-- per (c, d): `v' = Sq(μ')/N` maximises `−½ (N log v + Sq(μ')/v)`, and `Sq(μ') ≤ Sq(μ)` -/
theorem gauss_gain_var {N v v' sq sq' : ℝ} (hN : 0 < N) (hv : 0 < v) (hv' : 0 < v')
    (hsq' : sq' = N * v') (hle : sq' ≤ sq) :
    0 ≤ (-(1/2 : ℝ)) * (N * (Real.log v' - Real.log v) + (sq' / v' - sq / v)) := by
  have h1 : sq' / v' = N := by rw [hsq', mul_div_assoc, div_self hv'.ne', mul_one]
  have h2 : N * (v' / v) ≤ sq / v := by
    rw [mul_div_assoc', ← hsq']
    exact div_le_div_of_nonneg_right hle hv.le
  have h3 := Real.log_le_sub_one_of_pos (div_pos hv' hv)
  rw [Real.log_div hv'.ne' hv.ne'] at h3
  have h4 := mul_le_mul_of_nonneg_left h3 hN.le
  rw [h1]; linarith

end MStep

theorem mlMeans_of_count (cfg : MlCfg C D ℝ) (p : Params C D ℝ) (st : Stats C D ℝ) (hm : cfg.updMeans = true)
    {c : Fin C} (h : cfg.countThr ≤ st.n c) (d : Fin D) : mlMeans cfg p st c d = st.sumPx c d / st.n c := by
  simp only [mlMeans, hm, if_true, not_lt.mpr h, if_false, max_eq_left h]

theorem mlMeans_of_not (cfg : MlCfg C D ℝ) (p : Params C D ℝ) (st : Stats C D ℝ) (hm : cfg.updMeans = false) :
    mlMeans cfg p st = p.means := by
  simp only [mlMeans, hm, Bool.false_eq_true, if_false]

theorem mlRawVar_of_count (cfg : MlCfg C D ℝ) (p : Params C D ℝ) (st : Stats C D ℝ) (hm : cfg.updMeans = true)
    {c : Fin C} (h : cfg.countThr ≤ st.n c) (d : Fin D) :
    mlRawVar cfg p st c d = st.sumPxx c d / st.n c - st.sumPx c d / st.n c * (st.sumPx c d / st.n c) := by
  simp only [mlRawVar, mlMeans_of_count cfg p st hm h, max_eq_left h, sub_self, mul_zero, add_zero]

/-! `mlMStep` field by field (its `means` are `mlMeans` by `rfl`) -/
section
variable (cfg : MlCfg C D ℝ) (p : Params C D ℝ) (st : Stats C D ℝ) (t : ℝ)

theorem mlMStep_weights (h : cfg.updWeights = true) (c : Fin C) :
    (mlMStep cfg p st t).weights c = max (st.n c) cfg.countThr / t := by
  simp only [mlMStep, h, if_true]

theorem mlMStep_weights_of_not (h : cfg.updWeights = false) : (mlMStep cfg p st t).weights = p.weights := by
  simp only [mlMStep, h, Bool.false_eq_true, if_false]

theorem mlMStep_variances (h : cfg.updVars = true) {c : Fin C} (hc : cfg.countThr ≤ st.n c) (d : Fin D) :
    (mlMStep cfg p st t).variances c d = max (cfg.varFloor c d) (mlRawVar cfg p st c d) := by
  simp only [mlMStep, h, if_true, not_lt.mpr hc, if_false]

theorem mlMStep_variances_of_not (h : cfg.updVars = false) : (mlMStep cfg p st t).variances = p.variances := by
  simp only [mlMStep, h, Bool.false_eq_true, if_false]

theorem mlMStep_var_pos (hfl : ∀ c d, 0 < cfg.varFloor c d) (hv : ∀ c d, 0 < p.variances c d) (c : Fin C) (d : Fin D) :
    0 < (mlMStep cfg p st t).variances c d := by
  cases h : cfg.updVars
  · rw [mlMStep_variances_of_not cfg p st t h]
    exact hv c d
  · simp only [mlMStep, h, if_true]
    exact (hfl c d).trans_le (le_max_left _ _)
end

noncomputable def stOf {ι : Type} [Fintype ι] (p : Params (C+1) D ℝ) (X : ι → Fin D → ℝ) : Stats (C+1) D ℝ :=
  { n := Nst p X, sumPx := Fst p X, sumPxx := Sst p X, ll := ∑ i, logLik p (X i), t := Fintype.card ι }

theorem eStep_eq_stOf (p : Params (C+1) D ℝ) (xs : List (Fin D → ℝ)) :
    eStep p xs = stOf p (fun i : Fin xs.length => xs[i.1]) := by
  simp only [eStep, stOf, lsum_map_eq_sum, Fintype.card_fin]
  -- field by field `Nst`, `Fst`, `Sst`, `resp` unfold to what stands on the left
  rfl

/-- `N · mlRawVar` is the weighted squared deviation from the means the M-step assigns, updated or frozen
(frozen means are what the `(mlm − μ)²` term of `mlRawVar` is for) -/
theorem Sq_mlMeans {ι : Type} [Fintype ι] [Nonempty ι] (cfg : MlCfg (C+1) D ℝ) (p : Params (C+1) D ℝ)
    (X : ι → Fin D → ℝ) (c d) (h : cfg.countThr ≤ Nst p X c) :
    Sq p X c d (mlMeans cfg p (stOf p X) c d) = Nst p X c * mlRawVar cfg p (stOf p X) c d := by
  have hN := (Nst_pos p X c).ne'
  have hF := div_mul_cancel₀ (Fst p X c d) hN
  have hS := div_mul_cancel₀ (Sst p X c d) hN
  unfold mlRawVar
  generalize mlMeans cfg p (stOf p X) c d = m
  simp only [Sq, stOf, max_eq_left h]
  linear_combination (2 * m) * hF - hS
