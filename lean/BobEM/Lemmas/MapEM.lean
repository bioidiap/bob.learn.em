import BobEM.Lemmas.GmmEM

/-! Means-only MAP adaptation (C05): the blend `(F + r μ⁰)/(N + r)` minimises `Σ_i γ_ic (x_i − m)² + r (m − μ⁰)²`,
i.e. maximises the EM auxiliary function plus the log of the prior `N(μ⁰, σ/r)` on the mean. -/

open BobEM

variable {C D : ℕ}

/-- relevance penalty: minus the log of the prior `N(μ⁰_cd, σ_cd / r)` on every mean, up to a constant -/
noncomputable def mapPenalty (r : ℝ) (ubm p : Params (C+1) D ℝ) : ℝ :=
  (r / 2) * ∑ c, ∑ d, (p.means c d - ubm.means c d) * (p.means c d - ubm.means c d) / p.variances c d

/-- Reynolds adaptation of a component with evidence: the mean of the data and `r` pseudo-observations
at the prior mean -/
theorem mapMeans_of_count (cfg : MapCfg C D ℝ) (ubm p : Params C D ℝ) (st : Stats C D ℝ) (hm : cfg.updMeans = true)
    (hre : cfg.reynolds = true) {c : Fin C} (h : cfg.countThr ≤ st.n c) (hN : st.n c ≠ 0)
    (hNr : st.n c + cfg.relevance ≠ 0) (d : Fin D) :
    mapMeans cfg ubm p st c d = (st.sumPx c d + cfg.relevance * ubm.means c d) / (st.n c + cfg.relevance) := by
  have h1 := div_mul_cancel₀ (st.n c) hNr
  have h2 := div_mul_cancel₀ (st.sumPx c d) hN
  simp only [mapMeans, hm, if_true, mapAlpha, hre, not_lt.mpr h, if_false]
  rw [eq_div_iff hNr]
  linear_combination (st.sumPx c d / st.n c - ubm.means c d) * h1 + h2

theorem mapMStepG_weights_of_not (sq : ℝ → ℝ) (cfg : MapCfg C D ℝ) (ubm p : Params C D ℝ) (st : Stats C D ℝ) (t : ℝ)
    (h : cfg.updWeights = false) : (mapMStepG sq cfg ubm p st t).weights = p.weights := by
  simp only [mapMStepG, mapWeights, h, Bool.false_eq_true, if_false]

theorem mapMStepG_variances_of_not (sq : ℝ → ℝ) (cfg : MapCfg C D ℝ) (ubm p : Params C D ℝ) (st : Stats C D ℝ) (t : ℝ)
    (h : cfg.updVars = false) : (mapMStepG sq cfg ubm p st t).variances = p.variances := by
  simp only [mapMStepG, h, Bool.false_eq_true, if_false]

/-- one means-only MAP iteration, for either variance blend `sq`, does not decrease `Σ_i log p(x_i) − penalty` -/
theorem map_means_monotone (cfg : MapCfg (C+1) D ℝ) (ubm p : Params (C+1) D ℝ) (xs : List (Fin D → ℝ)) (hne : xs ≠ [])
    (sq : ℝ → ℝ)
    (hm : cfg.updMeans = true) (hv' : cfg.updVars = false) (hw' : cfg.updWeights = false) (hre : cfg.reynolds = true)
    (hr : 0 ≤ cfg.relevance)
    (hv : ∀ c d, 0 < p.variances c d)
    (hcount : ∀ c, cfg.countThr ≤ (eStep p xs).n c) :
    lsum (xs.map (logLik p)) - mapPenalty cfg.relevance ubm p
      ≤ lsum (xs.map (logLik (mapMStepG sq cfg ubm p (eStep p xs) (xs.length : ℝ))))
          - mapPenalty cfg.relevance ubm (mapMStepG sq cfg ubm p (eStep p xs) (xs.length : ℝ)) := by
  have : Nonempty (Fin xs.length) := ⟨⟨0, List.length_pos_of_ne_nil hne⟩⟩
  rw [eStep_eq_stOf] at hcount ⊢
  rw [lsum_map_eq_sum, lsum_map_eq_sum]
  set X := fun i : Fin xs.length => xs[i.1]
  set p' := mapMStepG sq cfg ubm p (stOf p X) (xs.length : ℝ) with hp'
  have hW : p'.weights = p.weights := mapMStepG_weights_of_not sq cfg ubm p _ _ hw'
  have hV : p'.variances = p.variances := mapMStepG_variances_of_not sq cfg ubm p _ _ hv'
  have hM : ∀ c d, p'.means c d = (Fst p X c d + cfg.relevance * ubm.means c d) / (Nst p X c + cfg.relevance) :=
    fun c d => mapMeans_of_count cfg ubm p (stOf p X) hm hre (hcount c) (Nst_pos p X c).ne'
      (add_pos_of_pos_of_nonneg (Nst_pos p X c) hr).ne' d
  have hQ := gmmEM_gain_le p p' X
  simp only [hW, hV, sub_self, mul_zero, zero_add] at hQ
  -- entry by entry the penalty grows by no more than the auxiliary function: `penalised_ls` over `2 v`
  have hP : mapPenalty cfg.relevance ubm p' - mapPenalty cfg.relevance ubm p
      ≤ ∑ c, ∑ d, (-(1/2 : ℝ)) * (Sq p X c d (p'.means c d) / p.variances c d - Sq p X c d (p.means c d) / p.variances c d) := by
    unfold mapPenalty
    rw [hV, ← mul_sub, ← Finset.sum_sub_distrib, Finset.mul_sum]
    refine Finset.sum_le_sum fun c _ => ?_
    rw [← Finset.sum_sub_distrib, Finset.mul_sum]
    refine Finset.sum_le_sum fun d _ => ?_
    have h := penalised_ls p X c d cfg.relevance (ubm.means c d) (p.means c d) hr
    rw [← hM c d, ← sub_nonneg] at h
    rw [← sub_nonneg]
    convert div_nonneg h (mul_pos two_pos (hv c d)).le using 1
    ring
  have h := hP.trans hQ
  rw [sub_le_sub_iff] at h ⊢
  rwa [add_comm] at h
#print axioms map_means_monotone
