import BobEM.Lemmas.Quad
import BobEM.Lemmas.LogDet

/-! The abstract linear-Gaussian model: items `i : ι` with latent `w_i ∈ ℝ^ρ ~ N(0, I)`, rows `k : κ` with
loading `Θ k ∈ ℝ^ρ`, noise variance `σ k`, count `N i k` and centred first-order statistic `f i k`.  `marg` is the
marginal likelihood of the statistics (up to constants); one exact EM step (`emStep`) never decreases it. -/

open Matrix

variable {ρ : Type} [Fintype ρ]

section Expand
variable {κ : Type} [Fintype κ]

theorem vecMulVec_quad (a x : ρ → ℝ) : x ⬝ᵥ (vecMulVec a a *ᵥ x) = (a ⬝ᵥ x) * (a ⬝ᵥ x) := by
  rw [vecMulVec_mulVec, op_smul_eq_smul, dotProduct_smul, smul_eq_mul, dotProduct_comm x a]

theorem dot_sum_smul (c : κ → ℝ) (v : κ → ρ → ℝ) (x : ρ → ℝ) :
    (∑ k, c k • v k) ⬝ᵥ x = ∑ k, c k * (v k ⬝ᵥ x) := by
  simp only [sum_dotProduct, smul_dotProduct, smul_eq_mul]

theorem trace_vecMulVec_mul (a : ρ → ℝ) (S : Matrix ρ ρ ℝ) :
    (vecMulVec a a * S).trace = a ⬝ᵥ (S *ᵥ a) := by
  rw [vecMulVec_mul, trace_vecMulVec, dotProduct_mulVec, dotProduct_comm]

theorem posSemidef_vecMulVec_self (v : ρ → ℝ) : (vecMulVec v v).PosSemidef :=
  star_trivial v ▸ Matrix.posSemidef_vecMulVec_self_star v

variable [DecidableEq ρ]

theorem quad_one_add_sum (c : κ → ℝ) (v : κ → ρ → ℝ) (x : ρ → ℝ) :
    x ⬝ᵥ ((1 + ∑ k, c k • vecMulVec (v k) (v k)) *ᵥ x)
      = x ⬝ᵥ x + ∑ k, c k * ((v k ⬝ᵥ x) * (v k ⬝ᵥ x)) := by
  rw [Matrix.add_mulVec, Matrix.one_mulVec, dotProduct_add, Matrix.sum_mulVec, dotProduct_sum]
  congr 1
  refine Finset.sum_congr rfl fun k _ => ?_
  rw [Matrix.smul_mulVec, dotProduct_smul, vecMulVec_quad, smul_eq_mul]

theorem trace_one_add_sum_mul (c : κ → ℝ) (v : κ → ρ → ℝ) (S : Matrix ρ ρ ℝ) :
    ((1 + ∑ k, c k • vecMulVec (v k) (v k)) * S).trace
      = S.trace + ∑ k, c k * (v k ⬝ᵥ (S *ᵥ v k)) := by
  rw [Matrix.add_mul, Matrix.one_mul, Matrix.trace_add, Matrix.sum_mul, Matrix.trace_sum]
  congr 1
  refine Finset.sum_congr rfl fun k _ => ?_
  rw [Matrix.smul_mul, Matrix.trace_smul, trace_vecMulVec_mul, smul_eq_mul]
end Expand

variable [DecidableEq ρ]

/-- marginal log-likelihood contribution of one item (up to parameter-free constants) -/
noncomputable def margItem (P : Matrix ρ ρ ℝ) (b : ρ → ℝ) : ℝ :=
  (1/2) * (b ⬝ᵥ (P⁻¹ *ᵥ b)) - (1/2) * Real.log P.det

/-- variational lower bound for one item, with posterior mean `μ` and covariance `S` -/
noncomputable def lowerItem (P : Matrix ρ ρ ℝ) (b μ : ρ → ℝ) (S : Matrix ρ ρ ℝ) : ℝ :=
  quadF P b μ - (1/2) * ((P * S).trace - Fintype.card ρ - Real.log S.det)

theorem lowerItem_le_margItem {P S : Matrix ρ ρ ℝ} (hP : P.PosDef) (hS : S.PosDef) (b μ : ρ → ℝ) :
    lowerItem P b μ S ≤ margItem P b := by
  refine sub_le_sub (quad_max hP b μ) (mul_le_mul_of_nonneg_left ?_ (by norm_num))
  exact le_sub_iff_add_le.mpr (logdet_mul_le hP hS)

theorem lowerItem_eq_margItem {P0 : Matrix ρ ρ ℝ} (hP0 : P0.PosDef) (b0 : ρ → ℝ) :
    lowerItem P0 b0 (P0⁻¹ *ᵥ b0) P0⁻¹ = margItem P0 b0 := by
  unfold lowerItem margItem quadF
  have hu : IsUnit P0.det := (Matrix.isUnit_iff_isUnit_det P0).mp hP0.isUnit
  rw [quad_max_eq hP0 b0, Matrix.mul_nonsing_inv P0 hu, Matrix.trace_one, sub_self, zero_sub,
    Matrix.det_nonsing_inv, Ring.inverse_eq_inv', Real.log_inv, neg_neg]

section Structured
variable {ι κ : Type} [Fintype ι] [Fintype κ]
variable (N f : ι → κ → ℝ) (σ : κ → ℝ)

/-- posterior precision of item i: `I + Σ_k (N_ik/σ_k) θ_k θ_kᵀ` -/
noncomputable def Pmat (Θ : κ → ρ → ℝ) (i : ι) : Matrix ρ ρ ℝ :=
  1 + ∑ k, (N i k / σ k) • vecMulVec (Θ k) (Θ k)

/-- linear term of item i: `Σ_k (f_ik/σ_k) θ_k` -/
noncomputable def bvec (Θ : κ → ρ → ℝ) (i : ι) : ρ → ℝ :=
  ∑ k, (f i k / σ k) • Θ k

/-- the training objective: marginal likelihood of all items -/
noncomputable def marg (Θ : κ → ρ → ℝ) : ℝ := ∑ i, margItem (Pmat N σ Θ i) (bvec f σ Θ i)

theorem Pmat_posDef (hN : ∀ i k, 0 ≤ N i k) (hσ : ∀ k, 0 < σ k) (Θ : κ → ρ → ℝ) (i : ι) :
    (Pmat N σ Θ i).PosDef := by
  unfold Pmat
  apply Matrix.PosDef.add_posSemidef Matrix.PosDef.one
  apply Matrix.posSemidef_sum
  intro k _
  exact (posSemidef_vecMulVec_self (Θ k)).smul (div_nonneg (hN i k) (hσ k).le)

omit [Fintype ι] in
theorem Pmat_mulVec (Θ : κ → ρ → ℝ) (i : ι) (x : ρ → ℝ) :
    Pmat N σ Θ i *ᵥ x = x + bvec (fun i k => N i k * (Θ k ⬝ᵥ x)) σ Θ i := by
  simp only [Pmat, bvec, Matrix.add_mulVec, Matrix.one_mulVec, Matrix.sum_mulVec, Matrix.smul_mulVec,
    vecMulVec_mulVec, op_smul_eq_smul, smul_smul, mul_div_right_comm]

omit [Fintype ρ] [Fintype ι] in
theorem Pmat_isHermitian (Θ : κ → ρ → ℝ) (i : ι) : (Pmat N σ Θ i).IsHermitian := by
  rw [Matrix.IsHermitian, conjTranspose_eq_transpose_of_trivial]
  simp only [Pmat, transpose_add, transpose_one, transpose_sum, transpose_smul, transpose_vecMulVec]
end Structured

section Main
variable {ι κ : Type} [Fintype ι] [Fintype κ]
variable (N f : ι → κ → ℝ) (σ : κ → ℝ)

/-- per item and row summand shared by both expansions -/
noncomputable def itemRowTerm (Θ : κ → ρ → ℝ) (μ : ρ → ℝ) (S : Matrix ρ ρ ℝ) (n fv : ℝ) (k : κ) : ℝ :=
  fv * (Θ k ⬝ᵥ μ) - (1/2) * n * (Θ k ⬝ᵥ (S *ᵥ Θ k) + (Θ k ⬝ᵥ μ) * (Θ k ⬝ᵥ μ))

omit [Fintype ι] in
theorem lowerItem_row (Θ : κ → ρ → ℝ) (i : ι) (μ : ρ → ℝ) (S : Matrix ρ ρ ℝ) :
    lowerItem (Pmat N σ Θ i) (bvec f σ Θ i) μ S =
      ∑ k, (1 / σ k) * itemRowTerm Θ μ S (N i k) (f i k) k
      + (-(1/2) * (μ ⬝ᵥ μ) - (1/2) * S.trace + (1/2) * Real.log S.det + (Fintype.card ρ : ℝ) / 2) := by
  unfold lowerItem quadF Pmat bvec itemRowTerm
  rw [dot_sum_smul, quad_one_add_sum, trace_one_add_sum_mul]
  have : ∀ k, (1 / σ k) * (f i k * (Θ k ⬝ᵥ μ) - (1/2) * N i k * (Θ k ⬝ᵥ (S *ᵥ Θ k) + (Θ k ⬝ᵥ μ) * (Θ k ⬝ᵥ μ)))
      = f i k / σ k * (Θ k ⬝ᵥ μ) - (1/2) * (N i k / σ k * ((Θ k ⬝ᵥ μ) * (Θ k ⬝ᵥ μ)))
        - (1/2) * (N i k / σ k * (Θ k ⬝ᵥ (S *ᵥ Θ k))) := by intro k; ring
  simp only [this, Finset.sum_sub_distrib, ← Finset.mul_sum]
  ring

omit [DecidableEq ρ] [Fintype κ] in
theorem quadF_sum (μ : ι → ρ → ℝ) (S : ι → Matrix ρ ρ ℝ) (Θ : κ → ρ → ℝ) (k : κ) :
    quadF (∑ i, N i k • (S i + vecMulVec (μ i) (μ i))) (∑ i, f i k • μ i) (Θ k)
      = ∑ i, itemRowTerm Θ (μ i) (S i) (N i k) (f i k) k := by
  unfold quadF itemRowTerm
  rw [sum_dotProduct, Matrix.sum_mulVec, dotProduct_sum, Finset.mul_sum, ← Finset.sum_sub_distrib]
  refine Finset.sum_congr rfl fun i _ => ?_
  rw [smul_dotProduct, Matrix.smul_mulVec, dotProduct_smul, Matrix.add_mulVec, dotProduct_add,
    vecMulVec_quad, dotProduct_comm (μ i) (Θ k)]
  simp only [smul_eq_mul]; ring

theorem lower_expand (Θ : κ → ρ → ℝ) (μ : ι → ρ → ℝ) (S : ι → Matrix ρ ρ ℝ) :
    ∑ i, lowerItem (Pmat N σ Θ i) (bvec f σ Θ i) (μ i) (S i) =
      ∑ k, (1 / σ k) * quadF (∑ i, N i k • (S i + vecMulVec (μ i) (μ i))) (∑ i, f i k • μ i) (Θ k)
      + ∑ i, (-(1/2) * (μ i ⬝ᵥ μ i) - (1/2) * (S i).trace + (1/2) * Real.log (S i).det
              + (Fintype.card ρ : ℝ) / 2) := by
  simp only [lowerItem_row, Finset.sum_add_distrib, quadF_sum, Finset.mul_sum]
  rw [Finset.sum_comm]

end Main

section EM
variable {ι κ : Type} [Fintype ι] [Fintype κ]
variable (N f : ι → κ → ℝ) (σ : κ → ℝ)

noncomputable def postMean (Θ0 : κ → ρ → ℝ) (i : ι) : ρ → ℝ :=
  (Pmat N σ Θ0 i)⁻¹ *ᵥ bvec f σ Θ0 i
noncomputable def postCov (Θ0 : κ → ρ → ℝ) (i : ι) : Matrix ρ ρ ℝ := (Pmat N σ Θ0 i)⁻¹
/-- accumulator `A1_k = Σ_i N_ik E[w wᵀ]` -/
noncomputable def accA1 (Θ0 : κ → ρ → ℝ) (k : κ) : Matrix ρ ρ ℝ :=
  ∑ i, N i k • (postCov N σ Θ0 i + vecMulVec (postMean N f σ Θ0 i) (postMean N f σ Θ0 i))
/-- accumulator `A2_k = Σ_i f_ik E[w]` -/
noncomputable def accA2 (Θ0 : κ → ρ → ℝ) (k : κ) : ρ → ℝ :=
  ∑ i, f i k • postMean N f σ Θ0 i
/-- the M-step: every row solves its normal equations -/
noncomputable def emStep (Θ0 : κ → ρ → ℝ) : κ → ρ → ℝ :=
  fun k => (accA1 N f σ Θ0 k)⁻¹ *ᵥ accA2 N f σ Θ0 k

theorem emStep_quadF_le (Θ0 : κ → ρ → ℝ) (k : κ) (hA1 : (accA1 N f σ Θ0 k).PosDef) :
    quadF (accA1 N f σ Θ0 k) (accA2 N f σ Θ0 k) (Θ0 k)
      ≤ quadF (accA1 N f σ Θ0 k) (accA2 N f σ Θ0 k) (emStep N f σ Θ0 k) :=
  quadF_le_argmax hA1 _ (Θ0 k)

theorem emStep_quadF (Θ0 : κ → ρ → ℝ) (k : κ) (hA1 : (accA1 N f σ Θ0 k).PosDef) :
    quadF (accA1 N f σ Θ0 k) (accA2 N f σ Θ0 k) (emStep N f σ Θ0 k)
      = (1/2) * (emStep N f σ Θ0 k ⬝ᵥ accA2 N f σ Θ0 k) := by
  unfold quadF emStep
  rw [posDef_mul_inv_mulVec hA1, dotProduct_comm (accA2 N f σ Θ0 k)]; ring

omit [Fintype ρ] [DecidableEq ρ] in
theorem posDef_sum_smul (c : ι → ℝ) (A : ι → Matrix ρ ρ ℝ)
    (hA : ∀ i, (A i).PosDef) (hc : ∀ i, 0 ≤ c i) (j : ι) (hj : 0 < c j) :
    (∑ i, c i • A i).PosDef := by
  classical
  rw [← Finset.add_sum_erase Finset.univ (fun i => c i • A i) (Finset.mem_univ j)]
  exact ((hA j).smul hj).add_posSemidef (Matrix.posSemidef_sum _ fun i _ => (hA i).posSemidef.smul (hc i))

theorem accA1_posDef (hN : ∀ i k, 0 ≤ N i k) (hσ : ∀ k, 0 < σ k) (Θ0 : κ → ρ → ℝ)
    (k : κ) (hpos : ∃ j, 0 < N j k) : (accA1 N f σ Θ0 k).PosDef := by
  obtain ⟨j, hj⟩ := hpos
  refine posDef_sum_smul (fun i => N i k) _ (fun i => ?_) (fun i => hN i k) j hj
  exact (Pmat_posDef N σ hN hσ Θ0 i).inv.add_posSemidef (posSemidef_vecMulVec_self _)

/-- items indexed with `l.get i`: `l[i]` with `i : Fin l.length` is the same term but takes some thirty
times as long to elaborate in every statement -/
theorem accA1_list {β : Type} (l : List β) (n g : β → κ → ℝ) (σ : κ → ℝ) (Θ0 : κ → ρ → ℝ) (k : κ) (a b : ρ) :
    accA1 (fun i => n (l.get i)) (fun i => g (l.get i)) σ Θ0 k a b
      = (l.map fun q => n q k * (postCov (ι := Unit) (fun _ => n q) σ Θ0 () a b
          + postMean (ι := Unit) (fun _ => n q) (fun _ => g q) σ Θ0 () a
            * postMean (ι := Unit) (fun _ => n q) (fun _ => g q) σ Θ0 () b)).sum := by
  rw [← Fin.sum_univ_fun_getElem]
  simp only [accA1, Matrix.sum_apply, Matrix.smul_apply, Matrix.add_apply, vecMulVec_apply, smul_eq_mul]
  rfl

theorem accA2_list {β : Type} (l : List β) (n g : β → κ → ℝ) (σ : κ → ℝ) (Θ0 : κ → ρ → ℝ) (k : κ) (a : ρ) :
    accA2 (fun i => n (l.get i)) (fun i => g (l.get i)) σ Θ0 k a
      = (l.map fun q => g q k * postMean (ι := Unit) (fun _ => n q) (fun _ => g q) σ Θ0 () a).sum := by
  rw [← Fin.sum_univ_fun_getElem]
  simp only [accA2, Finset.sum_apply, Pi.smul_apply, smul_eq_mul]
  rfl

/-- **the EM inequality**: from `(σ, Θ0)` to any `(σ1, Θ1)` the marginal likelihood gains at least what the
expected complete-data objective under the posterior at `(σ, Θ0)` gains; `lowerItem` is tight there
and a bound everywhere. -/
theorem linGaussEM_gain_le (σ1 : κ → ℝ) (hN : ∀ i k, 0 ≤ N i k) (hσ : ∀ k, 0 < σ k) (hσ1 : ∀ k, 0 < σ1 k)
    (Θ0 Θ1 : κ → ρ → ℝ) :
    ∑ k, 1 / σ1 k * quadF (accA1 N f σ Θ0 k) (accA2 N f σ Θ0 k) (Θ1 k)
      - ∑ k, 1 / σ k * quadF (accA1 N f σ Θ0 k) (accA2 N f σ Θ0 k) (Θ0 k)
      ≤ marg N f σ1 Θ1 - marg N f σ Θ0 := by
  have hP0 := fun i => Pmat_posDef N σ hN hσ Θ0 i
  have hold : marg N f σ Θ0
      = ∑ i, lowerItem (Pmat N σ Θ0 i) (bvec f σ Θ0 i) (postMean N f σ Θ0 i) (postCov N σ Θ0 i) :=
    Finset.sum_congr rfl fun i _ => (lowerItem_eq_margItem (hP0 i) _).symm
  have hnew : ∑ i, lowerItem (Pmat N σ1 Θ1 i) (bvec f σ1 Θ1 i) (postMean N f σ Θ0 i) (postCov N σ Θ0 i)
      ≤ marg N f σ1 Θ1 :=
    Finset.sum_le_sum fun i _ => lowerItem_le_margItem (Pmat_posDef N σ1 hN hσ1 Θ1 i) (hP0 i).inv _ _
  rw [lower_expand] at hold hnew
  exact (add_sub_add_right_eq_sub _ _ _).symm.trans_le (sub_le_sub hnew hold.le)

/-- Exact EM for a linear-Gaussian model with fixed noise never decreases the marginal
likelihood (any latent dimension). -/
theorem linGaussEM_monotone (hN : ∀ i k, 0 ≤ N i k) (hσ : ∀ k, 0 < σ k) (Θ0 : κ → ρ → ℝ)
    (hA1 : ∀ k, (accA1 N f σ Θ0 k).PosDef) :
    marg N f σ Θ0 ≤ marg N f σ (emStep N f σ Θ0) := by
  have h := linGaussEM_gain_le N f σ σ hN hσ hσ Θ0 (emStep N f σ Θ0)
  have := Finset.sum_le_sum fun k (_ : k ∈ Finset.univ) =>
    mul_le_mul_of_nonneg_left (emStep_quadF_le N f σ Θ0 k (hA1 k)) (one_div_pos.mpr (hσ k)).le
  linarith

/-- the form the training phases use: an identification `…_eq_emStep` assumes the accumulated `A1` positive
definite, which they are as soon as every row is observed by some item -/
theorem marg_le_of_eq_emStep (hN : ∀ i k, 0 ≤ N i k) (hσ : ∀ k, 0 < σ k) (hpos : ∀ k, ∃ j, 0 < N j k)
    (Θ0 Θ1 : κ → ρ → ℝ) (h : (∀ k, (accA1 N f σ Θ0 k).PosDef) → Θ1 = emStep N f σ Θ0) :
    marg N f σ Θ0 ≤ marg N f σ Θ1 := by
  have hA1 := fun k => accA1_posDef N f σ hN hσ Θ0 k (hpos k)
  rw [h hA1]
  exact linGaussEM_monotone N f σ hN hσ Θ0 hA1

end EM
#print axioms linGaussEM_monotone

/-! one row and a one-dimensional latent: the D phase of JFA (`stepD_entry`) -/

theorem inv_unit (A : Matrix Unit Unit ℝ) : A⁻¹ () () = (A () ())⁻¹ := by
  simp [Ring.inverse_eq_inv']

theorem postCov_scalar (n s θ : ℝ) :
    postCov (ι := Unit) (κ := Unit) (ρ := Unit) (fun _ _ => n) (fun _ => s) (fun _ _ => θ) () () ()
      = 1 / (1 + θ / s * θ * n) := by
  simp only [postCov, inv_unit, Pmat, Matrix.add_apply, Matrix.one_apply_eq, Matrix.smul_apply,
    vecMulVec_apply, smul_eq_mul, Finset.univ_unique, Finset.sum_singleton, one_div]
  congr 1; ring

theorem postMean_scalar (n g s θ : ℝ) :
    postMean (ι := Unit) (κ := Unit) (ρ := Unit) (fun _ _ => n) (fun _ _ => g) (fun _ => s) (fun _ _ => θ) () ()
      = 1 / (1 + θ / s * θ * n) * (θ / s) * g := by
  rw [← postCov_scalar]
  simp only [postMean, postCov, Matrix.mulVec, dotProduct, bvec, Finset.univ_unique, Finset.sum_singleton,
    Finset.sum_apply, Pi.smul_apply, smul_eq_mul]
  ring
