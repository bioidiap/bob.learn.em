import BobEM.Model.KMeans
import BobEM.Lemmas.Real
import BobEM.Lemmas.Fold

/-! k-means: `np.argmin` as a fold returns the first minimum (`argminFin_aux`); sums over the samples split by cluster;
the statistics are additive over blocks and invariant under reordering; Lloyd's descent (`lloyd_descent`: the mean step
is weighted least squares with 0/1 weights, the assignment step takes the nearest centroid); the weighted-variance
identities C20 uses. -/

open BobEM

/-- the fold invariant of `np.argmin`: after `m` steps the running best is one of the first `m + 1` entries, no
larger than any of them, and strictly smaller than every entry before it -/
theorem argminFin_aux {K : Nat} (d : Fin (K+1) → ℝ) : ∀ m (hm : m ≤ K),
    let best := Fin.foldl m (fun best (i : Fin m) =>
      if d ⟨i.val+1, by omega⟩ < d best then ⟨i.val+1, by omega⟩ else best) (0 : Fin (K+1))
    best.val ≤ m ∧ (∀ j : Fin (K+1), j.val ≤ m → d best ≤ d j) ∧ ∀ j : Fin (K+1), j < best → d best < d j := by
  intro m
  induction m with
  | zero =>
    intro _
    simp only [Fin.foldl_zero]
    refine ⟨le_rfl, fun j hj => ?_, fun j hj => absurd hj (Fin.not_lt_zero j)⟩
    obtain rfl : j = 0 := Fin.ext (Nat.le_zero.mp hj)
    exact le_rfl
  | succ m ih =>
    intro hm
    obtain ⟨hb, hle, hlt⟩ := ih (by omega)
    rw [Fin.foldl_succ_last]
    simp only [Fin.val_last, Fin.val_castSucc]
    split_ifs with h
    · refine ⟨le_rfl, fun j hj => ?_, fun j hj => h.trans_le (hle j (Nat.lt_succ_iff.mp hj))⟩
      rcases Nat.lt_or_ge j.val (m+1) with h' | h'
      · exact h.le.trans (hle j (by omega))
      · rw [show j = ⟨m+1, Nat.lt_succ_of_le hm⟩ from Fin.ext (le_antisymm hj h')]
    · refine ⟨by omega, fun j hj => ?_, hlt⟩
      rcases Nat.lt_or_ge j.val (m+1) with h' | h'
      · exact hle j (by omega)
      · rw [show j = ⟨m+1, Nat.lt_succ_of_le hm⟩ from Fin.ext (le_antisymm hj h')]
        exact not_lt.mp h

theorem argminFin_le (K : Nat) (d : Fin (K+1) → ℝ) (k : Fin (K+1)) :
    d (argminFin K d) ≤ d k :=
  (argminFin_aux d K le_rfl).2.1 k (Nat.lt_succ_iff.mp k.isLt)

#print axioms argminFin_le

/-- `np.argmin` returns the *first* minimiser: every earlier index is strictly worse -/
theorem argminFin_first (K : Nat) (d : Fin (K+1) → ℝ) (k : Fin (K+1)) (hk : k < argminFin K d) :
    d (argminFin K d) < d k :=
  (argminFin_aux d K le_rfl).2.2 k hk

variable {K D : ℕ}

theorem sum_ite_eq_sum_filter {β : Type} (l : List β) (p : β → Prop) [DecidablePred p] (f : β → ℝ) :
    (l.map fun x => if p x then f x else 0).sum = ((l.filter fun x => p x).map f).sum := by
  rw [List.sum_map_ite, List.map_const', List.sum_replicate, nsmul_zero, add_zero]

theorem sum_indicator_eq_countP {β : Type} (l : List β) (p : β → Prop) [DecidablePred p] :
    (l.map fun x => if p x then (1 : ℝ) else 0).sum = (l.countP p : ℝ) := by
  rw [sum_ite_eq_sum_filter, List.map_const', List.sum_replicate, nsmul_eq_mul, mul_one, List.countP_eq_length_filter]

theorem sum_map_finset_sum {β ι : Type} [Fintype ι] (l : List β) (f : β → ι → ℝ) :
    (l.map fun x => ∑ j, f x j).sum = ∑ j, (l.map fun x => f x j).sum :=
  Multiset.sum_map_sum (m := (l : Multiset β))

theorem sum_by_cluster {β : Type} (l : List β) (a : β → Fin (K+1)) (g : β → Fin (K+1) → ℝ) :
    (l.map fun x => g x (a x)).sum = ∑ k, (l.map fun x => if a x = k then g x k else 0).sum := by
  simp only [← sum_map_finset_sum, Finset.sum_ite_eq, Finset.mem_univ, if_true]

theorem sum_countP_eq_length {β : Type} (l : List β) (a : β → Fin (K+1)) :
    ∑ k, l.countP (fun x => a x = k) = l.length := by
  induction l with
  | nil => simp
  | cons x l ih =>
    simp only [List.countP_cons, Finset.sum_add_distrib, ih, List.length_cons, decide_eq_true_eq, Finset.sum_ite_eq,
      Finset.mem_univ, if_true]

theorem wsq_expand {β : Type} (l : List β) (w x : β → ℝ) (m : ℝ) :
    (l.map fun b => w b * ((x b - m) * (x b - m))).sum
      = (l.map fun b => w b * (x b * x b)).sum - 2 * m * (l.map fun b => w b * x b).sum
        + m * m * (l.map w).sum := by
  induction l with
  | nil => simp
  | cons b l ih => simp only [List.map_cons, List.sum_cons, ih]; ring

/-- weighted least squares: the weighted mean minimises the weighted sum of squares -/
theorem wsq_mean_le {β : Type} (l : List β) (w x : β → ℝ) (m : ℝ) (hW : 0 < (l.map w).sum) :
    (l.map fun b => w b * ((x b - (l.map fun b => w b * x b).sum / (l.map w).sum)
        * (x b - (l.map fun b => w b * x b).sum / (l.map w).sum))).sum
      ≤ (l.map fun b => w b * ((x b - m) * (x b - m))).sum := by
  rw [wsq_expand, wsq_expand]
  -- with `S₁ = μ W` the difference of the two sides is `W (m − μ)²`
  have hS := div_mul_cancel₀ (l.map fun b => w b * x b).sum hW.ne'
  generalize (l.map fun b => w b * x b).sum / (l.map w).sum = μ at hS ⊢
  rw [← hS]
  linarith [mul_nonneg hW.le (mul_self_nonneg (m - μ))]

theorem sqDist_eq {D : ℕ} (x c : Fin D → ℝ) : sqDist x c = ∑ j, (x j - c j) * (x j - c j) := by
  unfold sqDist; rw [sumFin_eq]

theorem sqDist_eq_dot {D : ℕ} (x c : Fin D → ℝ) : sqDist x c = (x - c) ⬝ᵥ (x - c) := sqDist_eq x c

theorem sqDist_nonneg {D : ℕ} (x c : Fin D → ℝ) : 0 ≤ sqDist x c := by
  rw [sqDist_eq]; exact Finset.sum_nonneg fun j _ => mul_self_nonneg _

theorem sqDistDask_eq {D : ℕ} (x c : Fin D → ℝ) : sqDistDask x c = sqDist x c := by
  unfold sqDistDask sqDist; congr 1; funext j; ring

theorem assign_le (cent : Fin (K+1) → Fin D → ℝ) (x : Fin D → ℝ) (k : Fin (K+1)) :
    sqDist x (cent (assign cent x)) ≤ sqDist x (cent k) :=
  argminFin_le K (fun k => sqDist x (cent k)) k

theorem kEStep_append (cent : Fin (K+1) → Fin D → ℝ) (xs ys : List (Fin D → ℝ)) :
    kEStep cent (xs ++ ys) = (kEStep cent xs).add (kEStep cent ys) := by
  unfold kEStep KStats.add
  simp only [lsum_eq, List.map_append, List.sum_append, List.countP_append]

theorem kEStep_nil (cent : Fin (K+1) → Fin D → ℝ) : kEStep cent ([] : List (Fin D → ℝ)) = KStats.zero := by
  simp [kEStep, KStats.zero, lsum_eq]

theorem kEStep_perm (cent : Fin (K+1) → Fin D → ℝ) {xs ys : List (Fin D → ℝ)} (h : xs.Perm ys) :
    kEStep cent xs = kEStep cent ys := by
  unfold kEStep
  simp only [lsum_eq]
  congr 1
  · funext k; exact h.countP_eq _
  · funext k j; exact (h.map _).sum_eq
  · exact (h.map _).sum_eq

theorem kEStep_blocks (cent : Fin (K+1) → Fin D → ℝ) (blocks : List (List (Fin D → ℝ))) :
    (blocks.map (kEStep cent)).foldl KStats.add KStats.zero = kEStep cent blocks.flatten :=
  (fold_add_flatten KStats.add KStats.zero (kEStep cent) (kEStep_nil cent) (kEStep_append cent) blocks).symm

theorem kIter_eq (blocks : List (List (Fin D → ℝ))) (cent : Fin (K+1) → Fin D → ℝ) :
    kIter blocks cent = kMStep cent (kEStep cent blocks.flatten) blocks.flatten.length := by
  rw [kIter, kEStep_blocks]

/-- the mean of the samples nearest to the entering centroid, or that centroid when there is none -/
theorem kMStep_cent (cent : Fin (K+1) → Fin D → ℝ) (xs : List (Fin D → ℝ)) (n : ℕ) (k : Fin (K+1)) :
    (kMStep cent (kEStep cent xs) n).1 k
      = if (xs.filter fun x => assign cent x = k) = [] then cent k
        else fun j => ((xs.filter fun x => assign cent x = k).map fun x => x j).sum
          / ((xs.filter fun x => assign cent x = k).length : ℝ) := by
  funext j
  simp only [kMStep, kEStep, lsum_eq, Transc.ofNat, List.countP_eq_length_filter, List.length_eq_zero_iff,
    sum_ite_eq_sum_filter xs (fun x => assign cent x = k) fun x => x j]
  split_ifs <;> rfl

/-- total within-cluster squared distance for a fixed assignment `a` and centroids `c` -/
noncomputable def wcss (a : (Fin D → ℝ) → Fin (K+1)) (c : Fin (K+1) → Fin D → ℝ) (xs : List (Fin D → ℝ)) : ℝ :=
  (xs.map fun x => sqDist x (c (a x))).sum

theorem kEStep_dist (cent : Fin (K+1) → Fin D → ℝ) (xs : List (Fin D → ℝ)) :
    (kEStep cent xs).dist = wcss (assign cent) cent xs := lsum_eq _

theorem wcss_split (a : (Fin D → ℝ) → Fin (K+1)) (c : Fin (K+1) → Fin D → ℝ) (xs : List (Fin D → ℝ)) :
    wcss a c xs = ∑ k, ∑ j, (xs.map fun x => if a x = k then (x j - c k j) * (x j - c k j) else 0).sum := by
  rw [wcss, sum_by_cluster xs a fun x k => sqDist x (c k)]
  simp only [← sum_map_finset_sum, sqDist_eq, Finset.ite_sum_zero]

/-- the mean step cannot increase the within-cluster sum for the assignment it was computed from
(an empty cluster keeps its centroid and contributes nothing) -/
theorem mean_step_le (cent : Fin (K+1) → Fin D → ℝ) (xs : List (Fin D → ℝ)) :
    wcss (assign cent) (kMStep cent (kEStep cent xs) xs.length).1 xs ≤ wcss (assign cent) cent xs := by
  rw [wcss_split, wcss_split]
  refine Finset.sum_le_sum fun k _ => Finset.sum_le_sum fun j _ => ?_
  simp only [kMStep, kEStep]
  by_cases hk : (xs.countP fun x => assign cent x = k) = 0
  · simp only [hk, if_true, le_refl]
  · -- weighted least squares with the 0/1 weights of cluster `k`
    have hW := sum_indicator_eq_countP xs fun x => assign cent x = k
    have h := wsq_mean_le xs (fun x => if assign cent x = k then (1:ℝ) else 0) (fun x => x j) (cent k j)
      (by rw [hW]; exact_mod_cast Nat.pos_of_ne_zero hk)
    simpa only [hW, ite_mul, one_mul, zero_mul, hk, if_false, lsum_eq, Transc.ofNat] using h

/-- **Lloyd descent** on the un-normalised distortion -/
theorem lloyd_descent (cent : Fin (K+1) → Fin D → ℝ) (xs : List (Fin D → ℝ)) :
    let cent' := (kMStep cent (kEStep cent xs) xs.length).1
    wcss (assign cent') cent' xs ≤ wcss (assign cent) cent xs := by
  intro cent'
  refine le_trans ?_ (mean_step_le cent xs)
  unfold wcss
  apply List.sum_le_sum
  intro x _
  exact assign_le cent' x (assign cent x)
#print axioms lloyd_descent

theorem wsum_shift {β : Type} (l : List β) (w x : β → ℝ) (c : ℝ) :
    (l.map fun b => w b * (x b - c)).sum = (l.map fun b => w b * x b).sum - c * (l.map w).sum := by
  induction l with
  | nil => simp
  | cons b l ih => simp only [List.map_cons, List.sum_cons, ih]; ring

/-- the variance computed from deviations about any point `c` is the variance about the mean -/
theorem var_shift_invariant {β : Type} (l : List β) (w x : β → ℝ) (c : ℝ) (hW : (l.map w).sum ≠ 0) :
    (l.map fun b => w b * ((x b - c) * (x b - c))).sum / (l.map w).sum
        - ((l.map fun b => w b * (x b - c)).sum / (l.map w).sum) * ((l.map fun b => w b * (x b - c)).sum / (l.map w).sum)
      = (l.map fun b => w b * ((x b - (l.map fun b => w b * x b).sum / (l.map w).sum)
            * (x b - (l.map fun b => w b * x b).sum / (l.map w).sum))).sum / (l.map w).sum := by
  rw [wsq_expand, wsq_expand, wsum_shift]
  have hS := div_mul_cancel₀ (l.map fun b => w b * x b).sum hW
  generalize (l.map fun b => w b * x b).sum / (l.map w).sum = μ at hS ⊢
  generalize (l.map w).sum = W at hS hW ⊢
  rw [← hS]
  field_simp
  ring
