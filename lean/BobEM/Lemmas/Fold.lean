import Mathlib.Algebra.BigOperators.Group.List.Basic

/-! Folds of accumulators: the model's statistics containers (`Stats`, `KStats`, `IV.Stats`, `FA.Acc`, …).
Their `add` / `zero` mirror `__add__` / `__iadd__` and the fresh container of the Python class and are plain
functions (only `IV.Stats` at ℝ has an `AddCommMonoid` instance, Lemmas/IVectorIdent): what a lemma needs of
them is an argument.  At the end: lists of equal length as `List.ofFn` families over one `Fin H` (enrolment, C07). -/

/-- a statistic that sends `++` to `add` can be accumulated block by block; every value the fold passes through
is the statistic of a prefix, so nothing is asked of `add` itself -/
theorem fold_add_flatten {β M : Type} (add : M → M → M) (zero : M) (f : List β → M)
    (hnil : f [] = zero) (happ : ∀ xs ys, f (xs ++ ys) = add (f xs) (f ys)) (blocks : List (List β)) :
    f blocks.flatten = (blocks.map f).foldl add zero := by
  have gen : ∀ pre, (blocks.map f).foldl add (f pre) = f (pre ++ blocks.flatten) := by
    induction blocks with
    | nil => intro pre; rw [List.map_nil, List.foldl_nil, List.flatten_nil, List.append_nil]
    | cons b bl ih => intro pre; rw [List.map_cons, List.foldl_cons, ← happ, ih, List.flatten_cons, List.append_assoc]
  rw [← hnil, gen, List.nil_append]

/-- a field of an accumulator that `add` adds is, after a fold, the start value plus the sum of that field -/
theorem foldl_add_proj {S M : Type} [AddCommMonoid M] (add : S → S → S) (π : S → M)
    (hadd : ∀ a b, π (add a b) = π a + π b) (l : List S) (s : S) :
    π (l.foldl add s) = π s + (l.map π).sum := by
  induction l generalizing s with
  | nil => simp
  | cons x l ih => simp [ih, hadd, add_assoc]

/-- `reduce_iadd`-shaped sums (the first element accumulates the others; some value on the empty list): a field
that `add` adds and that vanishes on the empty sum is the sum of that field -/
theorem reduce_proj {S M : Type} [AddCommMonoid M] (add : S → S → S) (sum : List S → S) (π : S → M)
    (h0 : π (sum []) = 0) (hc : ∀ x r, sum (x :: r) = r.foldl add x) (hadd : ∀ a b, π (add a b) = π a + π b)
    (l : List S) : π (sum l) = (l.map π).sum := by
  cases l with
  | nil => exact h0
  | cons x r => rw [hc, foldl_add_proj add π hadd, List.map_cons, List.sum_cons]

theorem zip_ofFn {β γ : Type} {H : ℕ} (S : Fin H → β) (X : Fin H → γ) :
    (List.ofFn S).zip (List.ofFn X) = List.ofFn fun h => (S h, X h) := by
  apply List.ext_getElem
  · simp
  · intro i h1 h2
    simp

theorem exists_ofFn {β : Type} (l : List β) {H : ℕ} (h : l.length = H) : ∃ f : Fin H → β, l = List.ofFn f := by
  subst h; exact ⟨fun i => l[i.val], List.ofFn_getElem.symm⟩

/-- two lists of equal length as two families over the same `Fin H`: a statement about `sts`, `xs` with
`xs.length = sts.length` is proved for `List.ofFn S`, `List.ofFn X` -/
theorem exists_ofFn₂ {β γ : Type} (sts : List β) (xs : List γ) (h : xs.length = sts.length) :
    ∃ (H : ℕ) (S : Fin H → β) (X : Fin H → γ), sts = List.ofFn S ∧ xs = List.ofFn X := by
  obtain ⟨X, hX⟩ := exists_ofFn xs h
  exact ⟨_, fun i => sts[i.val], X, List.ofFn_getElem.symm, hX⟩
