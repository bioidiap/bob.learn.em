import Mathlib.Analysis.SpecialFunctions.Log.Deriv
import Mathlib.Analysis.SpecialFunctions.ExpDeriv
import Mathlib.Analysis.Calculus.Deriv.Add
import Mathlib.Tactic

/-- derivative of log-sum-exp along a curve: softmax-weighted sum of the derivatives -/
theorem hasDerivAt_lse {κ : Type} [Fintype κ] [Nonempty κ] (a : κ → ℝ → ℝ) (a' : κ → ℝ) (t : ℝ)
    (ha : ∀ c, HasDerivAt (a c) (a' c) t) :
    HasDerivAt (fun ε => Real.log (∑ c, Real.exp (a c ε)))
      (∑ c, Real.exp (a c t) / (∑ k, Real.exp (a k t)) * a' c) t := by
  have hpos : 0 < ∑ c, Real.exp (a c t) := Finset.sum_pos (fun c _ => Real.exp_pos _) Finset.univ_nonempty
  have hsum : HasDerivAt (fun ε => ∑ c, Real.exp (a c ε)) (∑ c, Real.exp (a c t) * a' c) t :=
    HasDerivAt.fun_sum fun c _ => (ha c).exp
  have := hsum.log hpos.ne'
  convert this using 1
  rw [Finset.sum_div]
  exact Finset.sum_congr rfl fun c _ => by ring
#print axioms hasDerivAt_lse

/-- the exponent of one feature (plus constants `lw`, `g`) as a function of the interpolation parameter -/
theorem hasDerivAt_component (lw g x μ δ v : ℝ) :
    HasDerivAt (fun ε : ℝ => lw + (-(1/2 : ℝ)) * (g + (x - (μ + ε * δ)) * (x - (μ + ε * δ)) / v))
      (δ * (x - μ) / v) 0 := by
  have h1 : HasDerivAt (fun ε : ℝ => x - (μ + ε * δ)) (-δ) 0 := by
    have := ((hasDerivAt_id (0:ℝ)).mul_const δ).const_add μ
    simpa using this.const_sub x
  have h2 := (h1.fun_mul h1).div_const v
  have h3 := ((h2.const_add g).const_mul (-(1/2 : ℝ))).const_add lw
  refine h3.congr_deriv ?_
  ring
