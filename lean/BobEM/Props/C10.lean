import BobEM.Lemmas.IVectorIdent

/-!
# C10 — I-vectors are posterior means; i-vector EM never decreases the likelihood

Model: `BobEM.IV.precision / rhs / project / contrib / eStep / mStep / fit`
(`ivector.py: compute_id_tt_sigma_inv_t, compute_tt_sigma_inv_fnorm, IVectorMachine.project, e_step,
m_step, fit`).
-/

open Matrix BobEM BobEM.IV

variable {C D R : ℕ}

/-- the i-vector is the unique solution of `(I + Σ_c N_c T_cᵀ Σ_c⁻¹ T_c) w = Σ_c T_cᵀ Σ_c⁻¹ (F_c − N_c m_c)` -/
theorem C10_project_solves_system (m : Machine C D R ℝ) (st : GStat C D ℝ)
    (hn : ∀ c, 0 ≤ st.n c) (hs : ∀ c d, 0 < m.sigma c d) :
    (Matrix.of (precision m st.n) : Matrix (Fin R) (Fin R) ℝ) *ᵥ project m st = rhs m st ∧
    ∀ w, (Matrix.of (precision m st.n) : Matrix (Fin R) (Fin R) ℝ) *ᵥ w = rhs m st → w = project m st := by
  have hP := IV.precision_posDef m st.n hn hs
  have hproj : project m st = (Matrix.of (precision m st.n))⁻¹ *ᵥ rhs m st := mulVec_inv _ _
  refine ⟨by rw [hproj]; exact posDef_mul_inv_mulVec hP _, fun w hw => ?_⟩
  have hu : IsUnit (Matrix.of (precision m st.n) : Matrix (Fin R) (Fin R) ℝ).det :=
    (Matrix.isUnit_iff_isUnit_det _).mp hP.isUnit
  rw [hproj, ← hw, Matrix.mulVec_mulVec, Matrix.nonsing_inv_mul _ hu, Matrix.one_mulVec]

/-- it is the mode (= mean) of the Gaussian posterior of the total-variability factor -/
theorem C10_project_is_posterior_mode (m : Machine C D R ℝ) (st : GStat C D ℝ)
    (hn : ∀ c, 0 ≤ st.n c) (hs : ∀ c d, 0 < m.sigma c d) (w : Fin R → ℝ) :
    let P : Matrix (Fin R) (Fin R) ℝ := Matrix.of (precision m st.n)
    rhs m st ⬝ᵥ w - (1/2) * (w ⬝ᵥ (P *ᵥ w)) ≤ rhs m st ⬝ᵥ project m st - (1/2) * (project m st ⬝ᵥ (P *ᵥ project m st)) := by
  intro P
  have hP : P.PosDef := IV.precision_posDef m st.n hn hs
  rw [show project m st = P⁻¹ *ᵥ rhs m st from mulVec_inv _ _]
  exact quadF_le_argmax hP _ w

/-- after every M-step with `update_sigma` the covariances are at or above the floor — for components
with data and for components that were never observed (which keep their previous value, D8 rule) -/
theorem C10_sigma_floor (m : Machine C D R ℝ) (st : IV.Stats C D R ℝ) (floor : ℝ) (c : Fin C) (d : Fin D) :
    floor ≤ (mStep m st true floor).sigma c d ∧
    (st.nij c = 0 → floor ≤ m.sigma c d → (mStep m st true floor).sigma c d = m.sigma c d) := by
  rw [mStep_sigma]
  refine ⟨le_max_left _ _, fun h0 hfl => ?_⟩
  rw [ivRaw, if_pos (show Transc.isZero (st.nij c) = true from decide_eq_true h0), max_eq_right hfl]

/-- E-step accumulators are additive over any split of the training statistics … -/
theorem C10_estep_additive (m : Machine C D R ℝ) (xs ys : List (GStat C D ℝ)) :
    IV.eStep m (xs ++ ys) = (IV.eStep m xs).add (IV.eStep m ys) := by
  simp only [eStep_eq_sum, List.map_append, List.sum_append]; rfl

/-- … so one iteration on any partitioning of the statistics is the iteration on the whole list -/
theorem C10_partition_independent (m : Machine C D R ℝ) (parts : List (List (GStat C D ℝ))) (upd : Bool) (floor : ℝ) :
    iterate parts upd floor m = iterate [parts.flatten] upd floor m :=
  IV.iterate_perm (by simp) upd floor m

/-- **EM, fixed covariances**: the marginal likelihood of the training statistics never decreases -/
theorem C10_em_monotone_fixed_sigma (m : Machine C D R ℝ) (sts : List (GStat C D ℝ)) (floor : ℝ)
    (hn : ∀ st ∈ sts, ∀ c, 0 ≤ st.n c) (hs : ∀ c d, 0 < m.sigma c d)
    (hpos : ∀ c, ∃ i : Fin sts.length, 0 < sts[i].n c) :
    margI m sts m.T ≤ margI m sts (mStep m (IV.eStep m sts) false floor).T :=
  marg_le_of_eq_emStep (NI sts) (FI m sts) (sigmaK m.sigma) (fun i k => hn _ (List.getElem_mem _) k.1)
    (fun k => hs k.1 k.2) (fun k => hpos k.1) (rowsT m.T) (rowsT (mStep m (IV.eStep m sts) false floor).T)
    (mStep_T_eq_emStep m sts false floor)
#print axioms C10_em_monotone_fixed_sigma

/-- **EM with `update_sigma`**: the full marginal likelihood (covariance terms included) never
decreases, provided the incoming covariances respect the floor (true from the second iteration on by
`C10_sigma_floor`, and at the first whenever the UBM variances do) -/
theorem C10_em_monotone_update_sigma (m : Machine C D R ℝ) (sts : List (GStat C D ℝ)) (floor : ℝ) (hfl : 0 < floor)
    (hn : ∀ st ∈ sts, ∀ c, 0 ≤ st.n c) (hs : ∀ c d, floor ≤ m.sigma c d)
    (hpos : ∀ c, ∃ i : Fin sts.length, 0 < sts[i].n c) :
    margIS m sts m.T m.sigma
      ≤ margIS m sts (mStep m (IV.eStep m sts) true floor).T (mStep m (IV.eStep m sts) true floor).sigma := by
  have hN : ∀ i k, 0 ≤ NI sts i k := fun i k => hn _ (List.getElem_mem _) k.1
  have hσ : ∀ k, 0 < sigmaK m.sigma k := fun k => lt_of_lt_of_le hfl (hs k.1 k.2)
  have hNtot : ∀ k : Fin C × Fin D, 0 < ∑ i, NI sts i k := fun k =>
    (hpos k.1).elim fun j hj => lt_of_lt_of_le hj
      (Finset.single_le_sum (f := fun i => NI sts i k) (fun i _ => hN i k) (Finset.mem_univ j))
  have hA1 := fun k => accA1_posDef _ (FI m sts) _ hN hσ (rowsT m.T) k (hpos k.1)
  unfold margIS
  rw [mStep_T_eq_emStep m sts true floor hA1, mStep_sigma_eq_sigmaStep m sts floor hA1 hNtot]
  exact linGaussEM_sigma_monotone _ _ _ _ hN _ hσ _ hA1 hNtot (fun _ => hfl) (fun k => hs k.1 k.2)
#print axioms C10_em_monotone_update_sigma

/-- non-vacuity: one component, one feature, rank one, two statistics with positive counts -/
example : ∃ (m : Machine 1 1 1 ℝ) (sts : List (GStat 1 1 ℝ)) (floor : ℝ), 0 < floor ∧ (∀ st ∈ sts, ∀ c, 0 ≤ st.n c) ∧
    (∀ c d, floor ≤ m.sigma c d) ∧ (∀ c, ∃ i : Fin sts.length, 0 < sts[i].n c) := by
  refine ⟨⟨fun _ _ => 0, fun _ _ _ => 1, fun _ _ => 1⟩, [⟨fun _ => 2, fun _ _ => 1, fun _ _ => 3⟩, ⟨fun _ => 1, fun _ _ => -1, fun _ _ => 2⟩],
    1/2, one_half_pos, ?_, fun _ _ => one_half_lt_one.le, fun _ => ⟨⟨0, Nat.zero_lt_two⟩, two_pos⟩⟩
  intro st hst c
  simp only [List.mem_cons, List.not_mem_nil, or_false] at hst
  rcases hst with rfl | rfl
  · exact zero_le_two
  · exact zero_le_one

/-- for fixed counts the i-vector is a linear function of the centred first-order statistics
`F_c − N_c m_c`: the precision depends on the counts only, the right-hand side is linear -/
theorem C10_project_linear_in_centred_f (m : Machine C D R ℝ) (st st₁ st₂ : GStat C D ℝ) (a b : ℝ)
    (hn₁ : st₁.n = st.n) (hn₂ : st₂.n = st.n)
    (hf : ∀ c d, st.f c d - st.n c * m.ubmMeans c d
        = a * (st₁.f c d - st₁.n c * m.ubmMeans c d) + b * (st₂.f c d - st₂.n c * m.ubmMeans c d)) :
    project m st = fun t => a * project m st₁ t + b * project m st₂ t := by
  have hr : ∀ u, rhs m st u = a * rhs m st₁ u + b * rhs m st₂ u := by
    intro u
    simp only [rhs, sumFin_eq, hf, Finset.mul_sum, ← Finset.sum_add_distrib]
    refine Finset.sum_congr rfl fun c _ => Finset.sum_congr rfl fun d _ => ?_
    ring
  funext t
  simp only [project, FA.mulVec, sumFin_eq, hn₁, hn₂, hr, Finset.mul_sum, ← Finset.sum_add_distrib]
  refine Finset.sum_congr rfl fun u _ => ?_
  ring

/-- statistics that sit exactly at the UBM means (`F_c = N_c m_c` for every component, whatever the
counts) carry no evidence about the latent variable: the i-vector is the prior mean, zero. The
zero-frame case is the instance `N = 0, F = 0`. -/
theorem C10_centred_stats_zero (m : Machine C D R ℝ) (st : GStat C D ℝ)
    (hf : ∀ c d, st.f c d = st.n c * m.ubmMeans c d) : project m st = fun _ => 0 := by
  rw [C10_project_linear_in_centred_f m st st st 0 0 rfl rfl fun c d => by rw [hf c d]; ring]
  funext t; ring

/-- statistics with no frames give the zero vector -/
theorem C10_zero_stats_zero (m : Machine C D R ℝ) (st : GStat C D ℝ)
    (hn : ∀ c, st.n c = 0) (hf : ∀ c d, st.f c d = 0) : project m st = fun _ => 0 :=
  C10_centred_stats_zero m st fun c d => by rw [hf, hn, zero_mul]
