import BobEM.Lemmas.Real
import BobEM.Lemmas.MapEM
import BobEM.Lemmas.Relabel
import BobEM.Model.GmmState
import Mathlib.Tactic
import Mathlib.Topology.Algebra.Order.Field

/-!
# C05 — MAP adaptation interpolates between the prior model and the data by relevance

Model: `BobEM.mapAlpha`, `mapWeights`, `mapMeans`, `mapRawVarG`, `mapMStepSpec`, `mapMStepCode`
(`gmm.py: map_gmm_m_step`), `GState.mapInit` (`GMMMachine.__init__` of a MAP machine).  `…Spec` is Reynolds eq. 11–13, i.e. what the property states;
`…Code` mirrors the pinned commit, whose variance blend uses `ubm.variances + ubm.means` (defect
D3, recorded as a known finding because the pinned tests fix the resulting numbers).
-/

open BobEM Filter Topology

variable {C D : ℕ}

/-- adapted mean = `a·E_c[x] + (1−a)·prior mean` whenever the component has evidence -/
theorem C05_mean_blend (cfg : MapCfg C D ℝ) (ubm p : Params C D ℝ) (st : Stats C D ℝ)
    (hm : cfg.updMeans = true) (c : Fin C) (d : Fin D) (hn : cfg.countThr ≤ st.n c) :
    mapMeans cfg ubm p st c d
      = mapAlpha cfg st c * (st.sumPx c d / st.n c) + (1 - mapAlpha cfg st c) * ubm.means c d := by
  simp [mapMeans, hm, not_lt.mpr hn]

/-- the coefficient is `n_c/(n_c+r)` (Reynolds) or the fixed configured ratio -/
theorem C05_alpha (cfg : MapCfg C D ℝ) (st : Stats C D ℝ) (c : Fin C) :
    mapAlpha cfg st c = if cfg.reynolds then st.n c / (st.n c + cfg.relevance) else cfg.alphaFixed := rfl

theorem C05_alpha_mem (cfg : MapCfg C D ℝ) (st : Stats C D ℝ) (c : Fin C)
    (hr : cfg.reynolds = true) (hn : 0 ≤ st.n c) (hrel : 0 < cfg.relevance) :
    0 ≤ mapAlpha cfg st c ∧ mapAlpha cfg st c < 1 := by
  simp only [mapAlpha, hr, if_true]
  have : 0 < st.n c + cfg.relevance := by linarith
  exact ⟨div_nonneg hn this.le, (div_lt_one this).mpr (by linarith)⟩

/-- adapted weights are the same blend, renormalised: they are non-negative and sum to one -/
theorem C05_weight_blend_normalised (cfg : MapCfg C D ℝ) (ubm p : Params C D ℝ) (st : Stats C D ℝ) (t : ℝ)
    (hw : cfg.updWeights = true)
    (ha : ∀ c, 0 ≤ mapAlpha cfg st c ∧ mapAlpha cfg st c ≤ 1) (hn : ∀ c, 0 ≤ st.n c) (ht : 0 < t)
    (hw0 : ∀ c, 0 ≤ ubm.weights c) (hpos : 0 < ∑ c, mapRawWeight cfg ubm st t c) :
    (∀ c, mapWeights cfg ubm p st t c
        = (mapAlpha cfg st c * (st.n c / t) + (1 - mapAlpha cfg st c) * ubm.weights c)
          / ∑ k, (mapAlpha cfg st k * (st.n k / t) + (1 - mapAlpha cfg st k) * ubm.weights k)) ∧
    (∀ c, 0 ≤ mapWeights cfg ubm p st t c) ∧ ∑ c, mapWeights cfg ubm p st t c = 1 := by
  have hraw : ∀ c, 0 ≤ mapRawWeight cfg ubm st t c := fun c =>
    add_nonneg (mul_nonneg (ha c).1 (div_nonneg (hn c) ht.le)) (mul_nonneg (sub_nonneg.mpr (ha c).2) (hw0 c))
  have hW : ∀ c, mapWeights cfg ubm p st t c = mapRawWeight cfg ubm st t c / ∑ k, mapRawWeight cfg ubm st t k :=
    fun c => by simp only [mapWeights, hw, if_true, sumFin_eq]
  simp only [hW]
  exact ⟨fun c => rfl, fun c => div_nonneg (hraw c) hpos.le, by rw [← Finset.sum_div, div_self hpos.ne']⟩

/-- **Spec** variance blend: `a·E_c[x²] + (1−a)(prior var + prior mean²) − (new mean)²` -/
theorem C05_var_blend_spec (cfg : MapCfg C D ℝ) (ubm p : Params C D ℝ) (st : Stats C D ℝ)
    (c : Fin C) (d : Fin D) (hn : cfg.countThr ≤ st.n c) :
    mapRawVarG (fun m => m * m) cfg ubm p st c d
      = mapAlpha cfg st c * (st.sumPxx c d / st.n c)
        + (1 - mapAlpha cfg st c) * (ubm.variances c d + ubm.means c d * ubm.means c d)
        - mapMeans cfg ubm p st c d * mapMeans cfg ubm p st c d := by
  simp only [mapRawVarG, not_lt.mpr hn, if_false]; ring

/-- …which is a genuine variance: non-negative whenever the data moments are consistent
(`E[x²] ≥ E[x]²`), the prior variance is non-negative and `0 ≤ a ≤ 1` -/
theorem C05_var_blend_spec_nonneg (cfg : MapCfg C D ℝ) (ubm p : Params C D ℝ) (st : Stats C D ℝ)
    (hm : cfg.updMeans = true) (c : Fin C) (d : Fin D) (hn : cfg.countThr ≤ st.n c)
    (ha : 0 ≤ mapAlpha cfg st c ∧ mapAlpha cfg st c ≤ 1) (hv0 : 0 ≤ ubm.variances c d)
    (hmom : (st.sumPx c d / st.n c) * (st.sumPx c d / st.n c) ≤ st.sumPxx c d / st.n c) :
    0 ≤ mapRawVarG (fun m => m * m) cfg ubm p st c d := by
  rw [C05_var_blend_spec cfg ubm p st c d hn, C05_mean_blend cfg ubm p st hm c d hn]
  set a := mapAlpha cfg st c
  set m := st.sumPx c d / st.n c
  set s := st.sumPxx c d / st.n c
  set μ := ubm.means c d
  set v := ubm.variances c d
  have hid : a * s + (1 - a) * (v + μ * μ) - (a * m + (1 - a) * μ) * (a * m + (1 - a) * μ)
      = a * (s - m * m) + (1 - a) * v + a * (1 - a) * ((m - μ) * (m - μ)) := by ring
  rw [hid]
  have h1 : 0 ≤ a * (s - m * m) := mul_nonneg ha.1 (sub_nonneg.mpr hmom)
  have h2 : 0 ≤ (1 - a) * v := mul_nonneg (sub_nonneg.mpr ha.2) hv0
  have h3 : 0 ≤ a * (1 - a) * ((m - μ) * (m - μ)) :=
    mul_nonneg (mul_nonneg ha.1 (sub_nonneg.mpr ha.2)) (mul_self_nonneg _)
  exact add_nonneg (add_nonneg h1 h2) h3

/-- **Code vs Spec (partial):** the pinned commit's variance differs from the stated blend by
exactly `(1−a)(μ0² − μ0)` on components with evidence and by `μ0² − μ0` on components without -/
theorem C05_var_code_partial (cfg : MapCfg C D ℝ) (ubm p : Params C D ℝ) (st : Stats C D ℝ)
    (c : Fin C) (d : Fin D) :
    mapRawVarG (fun m => m) cfg ubm p st c d
      = mapRawVarG (fun m => m * m) cfg ubm p st c d
        - (if st.n c < cfg.countThr then 1 else 1 - mapAlpha cfg st c)
            * (ubm.means c d * ubm.means c d - ubm.means c d) := by
  unfold mapRawVarG
  split_ifs <;> ring

theorem C05_var_code_eq_spec_iff (cfg : MapCfg C D ℝ) (ubm p : Params C D ℝ) (st : Stats C D ℝ)
    (c : Fin C) (d : Fin D) (hn : cfg.countThr ≤ st.n c) :
    mapRawVarG (fun m => m) cfg ubm p st c d = mapRawVarG (fun m => m * m) cfg ubm p st c d
      ↔ (mapAlpha cfg st c = 1 ∨ ubm.means c d = 0 ∨ ubm.means c d = 1) := by
  -- the two differ by `(1 − a) (μ² − μ)`, which vanishes iff one factor does
  rw [C05_var_code_partial, if_neg (not_lt.mpr hn), sub_eq_self, mul_eq_zero, sub_eq_zero, sub_eq_zero,
    mul_right_eq_self₀, eq_comm (a := (1 : ℝ)), or_comm (a := ubm.means c d = 1)]

/-- **Refutation of the code's formula** (the D3 witness: prior mean 2, prior variance 1, n = r = 4,
E[x] = 2, E[x²] = 5): the property's blend gives variance 1, the pinned commit gives 0. -/
theorem C05_var_code_refuted :
    let cfg : MapCfg 1 1 ℝ := ⟨true, true, false, true, 4, 1/2, 0, fun _ _ => 0⟩
    let ubm : Params 1 1 ℝ := ⟨fun _ => 1, fun _ _ => 2, fun _ _ => 1⟩
    let st : Stats 1 1 ℝ := ⟨fun _ => 4, fun _ _ => 8, fun _ _ => 20, 0, 4⟩
    mapRawVarG (fun m => m * m) cfg ubm ubm st 0 0 = 1 ∧ mapRawVarG (fun m => m) cfg ubm ubm st 0 0 = 0 := by
  simp only [mapRawVarG, mapMeans, mapAlpha]
  norm_num

/-- a component without evidence keeps the prior's mean and (Spec) variance -/
theorem C05_no_evidence (cfg : MapCfg C D ℝ) (ubm p : Params C D ℝ) (st : Stats C D ℝ)
    (hm : cfg.updMeans = true) (c : Fin C) (d : Fin D) (hn : st.n c < cfg.countThr) :
    mapMeans cfg ubm p st c d = ubm.means c d ∧
    mapRawVarG (fun m => m * m) cfg ubm p st c d = ubm.variances c d := by
  have h1 : mapMeans cfg ubm p st c d = ubm.means c d := by simp [mapMeans, hm, hn]
  refine ⟨h1, ?_⟩
  simp only [mapRawVarG, hn, if_true, h1]; ring

/-- relevance → ∞: the blend of `C05_mean_blend` tends to the prior mean -/
theorem C05_limit_prior (n m μ0 : ℝ) :
    Tendsto (fun r : ℝ => n / (n + r) * m + (1 - n / (n + r)) * μ0) atTop (𝓝 μ0) := by
  have h : Tendsto (fun r : ℝ => n / (n + r)) atTop (𝓝 0) :=
    Tendsto.div_atTop tendsto_const_nhds (tendsto_atTop_add_const_left _ _ tendsto_id)
  have := (h.mul_const m).add (((tendsto_const_nhds (x := (1:ℝ))).sub h).mul_const μ0)
  simpa using this

/-- relevance → 0⁺: with evidence (`n > 0`) the blend tends to the data mean -/
theorem C05_limit_data (n m μ0 : ℝ) (hn : 0 < n) :
    Tendsto (fun r : ℝ => n / (n + r) * m + (1 - n / (n + r)) * μ0) (𝓝[>] 0) (𝓝 m) := by
  have hc : Tendsto (fun r : ℝ => n / (n + r)) (𝓝 0) (𝓝 (n / (n + 0))) :=
    Tendsto.div tendsto_const_nhds (tendsto_const_nhds.add tendsto_id) (by simpa using hn.ne')
  have h : Tendsto (fun r : ℝ => n / (n + r)) (𝓝[>] 0) (𝓝 1) := by
    have : n / (n + 0) = 1 := by rw [add_zero, div_self hn.ne']
    rw [this] at hc
    exact hc.mono_left nhdsWithin_le_nhds
  have := (h.mul_const m).add (((tendsto_const_nhds (x := (1:ℝ))).sub h).mul_const μ0)
  simpa using this

/-- non-vacuity: the guards of the blend theorems are met by the D3 witness configuration -/
example : ∃ (cfg : MapCfg 1 1 ℝ) (st : Stats 1 1 ℝ), cfg.updMeans = true ∧ cfg.countThr ≤ st.n 0 ∧
    (0 ≤ mapAlpha cfg st 0 ∧ mapAlpha cfg st 0 ≤ 1) :=
  ⟨⟨true, true, false, true, 4, 1/2, 0, fun _ _ => 0⟩, ⟨fun _ => 4, fun _ _ => 8, fun _ _ => 20, 0, 4⟩,
    rfl, by norm_num, by simp only [mapAlpha]; norm_num⟩

/-- the objective of MAP adaptation of the means with relevance factor `r`: total log-likelihood of
the adaptation data minus the relevance penalty (`mapPenalty`) -/
noncomputable def C05_objective (r : ℝ) (ubm p : Params (C+1) D ℝ) (xs : List (Fin D → ℝ)) : ℝ :=
  lsum (xs.map (logLik p)) - mapPenalty r ubm p

/-- **one MAP iteration never decreases the relevance-penalised likelihood** (means-only adaptation,
Reynolds coefficient, no component below the count threshold).  Holds for the Spec and for the Code
variant of the M-step alike (they differ only in the variance blend, which is off here). -/
theorem C05_map_means_monotone (cfg : MapCfg (C+1) D ℝ) (ubm p : Params (C+1) D ℝ) (xs : List (Fin D → ℝ)) (hne : xs ≠ [])
    (hm : cfg.updMeans = true) (hv' : cfg.updVars = false) (hw' : cfg.updWeights = false) (hre : cfg.reynolds = true)
    (hr : 0 ≤ cfg.relevance) (hv : ∀ c d, 0 < p.variances c d)
    (hcount : ∀ c, cfg.countThr ≤ (eStep p xs).n c) :
    C05_objective cfg.relevance ubm p xs
        ≤ C05_objective cfg.relevance ubm (mapMStepSpec cfg ubm p (eStep p xs) (xs.length : ℝ)) xs
    ∧ C05_objective cfg.relevance ubm p xs
        ≤ C05_objective cfg.relevance ubm (mapMStepCode cfg ubm p (eStep p xs) (xs.length : ℝ)) xs :=
  ⟨map_means_monotone cfg ubm p xs hne _ hm hv' hw' hre hr hv hcount,
   map_means_monotone cfg ubm p xs hne _ hm hv' hw' hre hr hv hcount⟩

/-- any number of iterations: the penalised likelihood along the iterates is non-decreasing as long
as no component falls below the count threshold -/
theorem C05_map_means_monotone_iter (cfg : MapCfg (C+1) D ℝ) (ubm p : Params (C+1) D ℝ) (xs : List (Fin D → ℝ)) (hne : xs ≠ [])
    (hm : cfg.updMeans = true) (hv' : cfg.updVars = false) (hw' : cfg.updWeights = false) (hre : cfg.reynolds = true)
    (hr : 0 ≤ cfg.relevance) (hv : ∀ c d, 0 < p.variances c d)
    (hcount : ∀ k c, cfg.countThr ≤ (eStep ((fun q => mapMStepSpec cfg ubm q (eStep q xs) (xs.length : ℝ))^[k] p) xs).n c)
    (k : ℕ) :
    C05_objective cfg.relevance ubm p xs
      ≤ C05_objective cfg.relevance ubm ((fun q => mapMStepSpec cfg ubm q (eStep q xs) (xs.length : ℝ))^[k] p) xs := by
  -- `f^[k+1] p` is `f^[k] (f p)` by definition: one step from `p`, then the induction hypothesis at `f p`,
  -- whose variances are those of `p`
  induction k generalizing p with
  | zero => exact le_refl _
  | succ k ih =>
    exact (C05_map_means_monotone cfg ubm p xs hne hm hv' hw' hre hr hv (hcount 0)).1.trans
      (ih _ ((mapMStepG_variances_of_not _ cfg ubm p _ _ hv').symm ▸ hv) fun j => hcount (j + 1))

/-- non-vacuity of the hypotheses on configuration and model of the monotonicity theorem -/
example : ∃ (cfg : MapCfg 1 1 ℝ) (p : Params 1 1 ℝ), cfg.updMeans = true ∧ cfg.updVars = false ∧ cfg.updWeights = false ∧
    cfg.reynolds = true ∧ 0 ≤ cfg.relevance ∧ (∀ c d, 0 < p.variances c d) :=
  ⟨⟨true, false, false, true, 4, 1/2, 0, fun _ _ => 0⟩, ⟨fun _ => 1, fun _ _ => 0, fun _ _ => 1⟩,
    rfl, rfl, rfl, rfl, by norm_num, by intro c d; norm_num⟩

/-- with the floors copied first, a MAP machine constructed from a prior whose variances respect the
prior's floors starts with exactly the prior's variances, whatever `mean_var_update_threshold` is
(repair of defect D23) -/
theorem C05_map_machine_starts_from_prior (t0 : ℝ) (uw : Fin C → ℝ) (um uv ut : Fin C → Fin D → ℝ)
    (hcoh : ∀ c d, ut c d ≤ uv c d) :
    (GState.mapInit true t0 uw um uv ut).variances = some uv ∧ (GState.mapInit true t0 uw um uv ut).means = some um
      ∧ (GState.mapInit true t0 uw um uv ut).weights = uw ∧ (GState.mapInit true t0 uw um uv ut).thresholds = ut := by
  simp only [GState.mapInit, if_true, GState.init, GState.setThresholds, GState.setMeans, GState.setVariances, GState.setWeights]
  simp only [and_true, Option.some.injEq]
  funext c d
  exact max_eq_right (hcoh c d)

/-- the pinned commit's order clamps the prior's variances at the count threshold: refuted by a witness -/
theorem C05_map_init_old_order_refuted :
    ∃ (t0 : ℝ) (uw : Fin 1 → ℝ) (um uv ut : Fin 1 → Fin 1 → ℝ), (∀ c d, ut c d ≤ uv c d) ∧
      (GState.mapInit false t0 uw um uv ut).variances ≠ some uv :=
  ⟨1, fun _ => 1, fun _ _ => 0, fun _ _ => 1/4, fun _ _ => 0, by intro c d; norm_num, by
    simp only [GState.mapInit, GState.init, GState.setThresholds, GState.setMeans, GState.setVariances, GState.setWeights]
    intro h
    have := congrFun (congrFun (Option.some.inj h) 0) 0
    norm_num at this⟩

/-- MAP adaptation does not depend on how the components are numbered: the M-step on relabelled prior,
model, statistics and floors is the relabelled M-step — every switch combination, Reynolds or fixed
alpha, with or without evidence, Spec and Code form of the variance alike -/
theorem C05_mstep_relabel_equivariant (sq : ℝ → ℝ) (cfg : MapCfg C D ℝ) (ubm p : Params C D ℝ) (st : Stats C D ℝ)
    (t : ℝ) (σ : Equiv.Perm (Fin C)) :
    mapMStepG sq (cfg.relabelM σ) (ubm.relabelM σ) (p.relabelM σ) (st.relabelM σ) t
      = (mapMStepG sq cfg ubm p st t).relabelM σ := by
  -- the weight normaliser is the only sum over the components; the rest is per component
  -- (the variances read the means just assigned, so they need `um` decided too)
  have hsum : sumFin C (mapRawWeight (cfg.relabelM σ) (ubm.relabelM σ) (st.relabelM σ) t)
      = sumFin C (mapRawWeight cfg ubm st t) := sumFin_comp_equiv σ (mapRawWeight cfg ubm st t)
  unfold mapMStepG mapWeights
  rw [hsum]
  unfold Params.relabelM
  obtain ⟨um, uv, uw, re, rel, af, thr, fl⟩ := cfg
  congr 1
  · cases uw <;> rfl
  · cases um <;> rfl
  · cases uv <;> cases um <;> rfl
