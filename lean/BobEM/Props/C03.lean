import BobEM.Lemmas.GmmEM
import BobEM.Lemmas.Loop
import BobEM.Props.C02
import BobEM.Lemmas.Relabel

/-!
# C03 — GMM ML training never decreases the likelihood and stops by its stated rule

Model: `BobEM.eStep`, `BobEM.mlMStep` (`gmm.py: ml_gmm_m_step`, count floor `clip(n, thr)`, three
switches, variance floor through the setter), `BobEM.gmmMlIter`, `BobEM.gmmMlFit` = `BobEM.emLoop`
(`GMMMachine.fit`).
-/

open BobEM

variable {C D : ℕ}

/-- the likelihood part of C03 (what it claims is said at `C03_ml_em_monotone'` below): by `gmmEM_gain_le` it suffices that
each term of the auxiliary function gains — weights by `weights_gain`, means by `Sq_mean_le`, variances by `gauss_gain_var` -/
theorem C03_ml_em_monotone (cfg : MlCfg (C+1) D ℝ) (p : Params (C+1) D ℝ)
    (xs : List (Fin D → ℝ)) (hne : xs ≠ [])
    (hw : ∀ c, 0 < p.weights c) (hsum : ∑ c, p.weights c ≤ 1) (hv : ∀ c d, 0 < p.variances c d)
    (hcount : ∀ c, cfg.countThr ≤ (eStep p xs).n c)
    (hfl : cfg.updVars = true → ∀ c d, cfg.varFloor c d ≤ mlRawVar cfg p (eStep p xs) c d)
    (hfl0 : cfg.updVars = true → ∀ c d, 0 < mlRawVar cfg p (eStep p xs) c d) :
    lsum (xs.map (logLik p))
      ≤ lsum (xs.map (logLik (mlMStep cfg p (eStep p xs) (xs.length : ℝ)))) := by
  have : Nonempty (Fin xs.length) := ⟨⟨0, List.length_pos_of_ne_nil hne⟩⟩
  rw [eStep_eq_stOf] at hcount hfl hfl0 ⊢
  rw [lsum_map_eq_sum, lsum_map_eq_sum]
  set X := fun i : Fin xs.length => xs[i.1]
  set p' := mlMStep cfg p (stOf p X) (xs.length : ℝ) with hp'
  refine sub_nonneg.mp (le_trans ?_ (gmmEM_gain_le p p' X))
  have hmeans : ∀ c d, Sq p X c d (p'.means c d) ≤ Sq p X c d (p.means c d) := by
    intro c d
    rw [show p'.means = mlMeans cfg p (stOf p X) from rfl]
    cases hm : cfg.updMeans
    · rw [mlMeans_of_not cfg p _ hm]
    · rw [mlMeans_of_count cfg p _ hm (hcount c)]
      exact Sq_mean_le p X c d _
  rw [Finset.sum_add_distrib]
  refine add_nonneg ?_ (Finset.sum_nonneg fun c _ => Finset.sum_nonneg fun d _ => ?_)
  · cases huw : cfg.updWeights
    · simp only [hp', mlMStep_weights_of_not _ _ _ _ huw, sub_self, mul_zero, Finset.sum_const_zero, le_refl]
    · simp only [hp', mlMStep_weights _ _ _ _ huw, max_eq_left (hcount _)]
      have := weights_gain p X hw hsum
      rwa [Fintype.card_fin] at this
  · cases huv : cfg.updVars
    · rw [hp', mlMStep_variances_of_not _ _ _ _ huv, sub_self, mul_zero, zero_add]
      exact mul_nonneg_of_nonpos_of_nonpos (by norm_num)
        (sub_nonpos.mpr (div_le_div_of_nonneg_right (hmeans c d) (hv c d).le))
    · rw [hp', mlMStep_variances _ _ _ _ huv (hcount c), max_eq_right (hfl huv c d)]
      exact gauss_gain_var (Nst_pos p X c) (hv c d) (hfl0 huv c d) (Sq_mlMeans cfg p X c d (hcount c)) (hmeans c d)
#print axioms C03_ml_em_monotone

/-- One ML EM iteration never decreases the total (hence the average) training log-likelihood, for
every combination of the three update switches, as long as no count floor and no variance floor is
active (the hypotheses state exactly the tests the code performs). -/
theorem C03_ml_em_monotone' (cfg : MlCfg (C+1) D ℝ) (p : Params (C+1) D ℝ)
    (xs : List (Fin D → ℝ)) (hne : xs ≠ [])
    (hw : ∀ c, 0 < p.weights c) (hsum : ∑ c, p.weights c ≤ 1) (hv : ∀ c d, 0 < p.variances c d)
    (hcount : ∀ c, cfg.countThr ≤ (eStep p xs).n c)
    (hfl : cfg.updVars = true → ∀ c d, cfg.varFloor c d ≤ mlRawVar cfg p (eStep p xs) c d)
    (hfl0 : cfg.updVars = true → ∀ c d, 0 < mlRawVar cfg p (eStep p xs) c d) :
    lsum (xs.map (logLik p))
      ≤ lsum (xs.map (logLik (mlMStep cfg p (eStep p xs) (xs.length : ℝ)))) :=
  C03_ml_em_monotone cfg p xs hne hw hsum hv hcount hfl hfl0

/-- the same statement about the iteration of `fit` itself -/
theorem C03_fit_iter_monotone (cfg : MlCfg (C+1) D ℝ) (p : Params (C+1) D ℝ)
    (xs : List (Fin D → ℝ)) (hne : xs ≠ [])
    (hw : ∀ c, 0 < p.weights c) (hsum : ∑ c, p.weights c ≤ 1) (hv : ∀ c d, 0 < p.variances c d)
    (hcount : ∀ c, cfg.countThr ≤ (eStep p xs).n c)
    (hfl : cfg.updVars = true → ∀ c d, cfg.varFloor c d ≤ mlRawVar cfg p (eStep p xs) c d)
    (hfl0 : cfg.updVars = true → ∀ c d, 0 < mlRawVar cfg p (eStep p xs) c d) :
    (eStep p xs).ll ≤ (eStep (gmmMlIter cfg xs p).1 xs).ll := by
  simp only [gmmMlIter, eStep]
  exact C03_ml_em_monotone cfg p xs hne hw hsum hv hcount hfl hfl0

/-- The variance formula of the pinned commit (`sum_pxx/n − means²` with the machine's current
means) is the maximiser only if the means were just updated: it differs from the correct
estimate by exactly `2 μ (μ − m̂)` (defect D4; the likelihood decrease is replayed on the code). -/
theorem C03_old_variance_formula (cfg : MlCfg C D ℝ) (p : Params C D ℝ) (st : Stats C D ℝ) (c : Fin C) (d : Fin D) :
    mlRawVarOld cfg p st c d
      = mlRawVar cfg p st c d
        - 2 * mlMeans cfg p st c d
            * (mlMeans cfg p st c d - st.sumPx c d / max (st.n c) cfg.countThr) := by
  unfold mlRawVarOld mlRawVar; ring

theorem C03_old_eq_new_when_means_updated (cfg : MlCfg C D ℝ) (p : Params C D ℝ) (st : Stats C D ℝ)
    (h : cfg.updMeans = true) (c : Fin C) (d : Fin D) (hc : ¬ st.n c < cfg.countThr) :
    mlRawVarOld cfg p st c d = mlRawVar cfg p st c d := by
  rw [C03_old_variance_formula, mlMeans_of_count cfg p st h (not_lt.mp hc), max_eq_left (not_lt.mp hc), sub_self,
    mul_zero, sub_zero]

/-- criterion reported at iteration `j ≥ 1` of `fit` -/
noncomputable def gmmCrit (cfg : MlCfg (C+1) D ℝ) (xs : List (Fin D → ℝ)) (p0 : Params (C+1) D ℝ) (j : ℕ) : ℝ :=
  (traj (gmmMlIter cfg xs) p0 0 j).2

/-- **Stopping rule.**  `fit` performs `k ≤ max` iterations and returns the `k`-th iterate; the relative
change `|(L_{j-1} − L_j)/L_{j-1}|` was above the threshold at every earlier `j ≥ 2`, and `k < max` only
if it is at or below it at `k ≥ 2`. -/
theorem C03_stop_rule (cfg : MlCfg (C+1) D ℝ) (thr : Option ℝ) (maxSteps : ℕ)
    (p0 : Params (C+1) D ℝ) (xs : List (Fin D → ℝ)) :
    ∃ k, k ≤ maxSteps ∧
      gmmMlFit cfg thr maxSteps p0 xs = ((traj (gmmMlIter cfg xs) p0 0 k).1, k) ∧
      (∀ j t, 2 ≤ j → j < k → thr = some t →
          t < relChange (gmmCrit cfg xs p0 (j-1)) (gmmCrit cfg xs p0 j)) ∧
      (k = maxSteps ∨ (2 ≤ k ∧ ∃ t, thr = some t ∧
          relChange (gmmCrit cfg xs p0 (k-1)) (gmmCrit cfg xs p0 k) ≤ t)) :=
  emLoop_convStop_spec (gmmMlIter cfg xs) thr p0 0 maxSteps

/-- without a threshold exactly `max` iterations are performed -/
theorem C03_no_threshold (cfg : MlCfg (C+1) D ℝ) (maxSteps : ℕ) (p0 : Params (C+1) D ℝ) (xs : List (Fin D → ℝ)) :
    (gmmMlFit cfg none maxSteps p0 xs).2 = maxSteps := by
  obtain ⟨k, _, heq, _, hend⟩ := C03_stop_rule cfg none maxSteps p0 xs
  rw [heq]
  rcases hend with h | ⟨_, t, ht, _⟩
  · exact h
  · cases ht

/-- the loop replayed on a recorded criterion sequence obeys the same rule (this is the function
the correspondence executes on the implementation's observed trajectory) -/
theorem C03_stopIndex_spec (thr : Option ℝ) (maxSteps : ℕ) (crit : Array ℝ) :
    stopIndex thr maxSteps crit ≤ maxSteps := by
  obtain ⟨k, hk, heq, _, _⟩ := emLoop_spec (fun (i : ℕ) => (i + 1, crit.getD i 0)) (convStop thr) 0 0 maxSteps
  unfold stopIndex; rw [heq]; exact hk

/-- non-vacuity of the hypotheses on data and model (`hne`, `hw`, `hsum`, `hv`): one component, one
feature, two distinct samples -/
example : ∃ (_cfg : MlCfg 1 1 ℝ) (p : Params 1 1 ℝ) (xs : List (Fin 1 → ℝ)), xs ≠ [] ∧
    (∀ c, 0 < p.weights c) ∧ ∑ c, p.weights c ≤ 1 ∧ (∀ c d, 0 < p.variances c d) := by
  refine ⟨⟨true, true, true, 0, fun _ _ => 0⟩, ⟨fun _ => 1, fun _ _ => 0, fun _ _ => 1⟩,
    [fun _ => 1, fun _ => -1], by simp, by intro c; norm_num, by simp, by intro c d; norm_num⟩

/-- moment matching: after one ML M-step that updates weights and means with no count floor active,
the mixture mean `Σ_c w_c μ_c` is the sample mean; if the variances are updated too and no variance
floor clamps, the mixture's second moment `Σ_c w_c (σ_c + μ_c²)` is the sample's second moment. A
wrong M-step formula (a count used twice, a statistic of another component, a missing square) breaks
one of the two identities even when training still converges to nearly the same fixed point. -/
theorem C03_mstep_matches_moments (cfg : MlCfg (C+1) D ℝ) (p : Params (C+1) D ℝ) (xs : List (Fin D → ℝ))
    (hm : cfg.updMeans = true) (hw : cfg.updWeights = true)
    (hthr : 0 < cfg.countThr) (hcount : ∀ c, cfg.countThr ≤ (eStep p xs).n c) :
    (∀ d, ∑ c, (mlMStep cfg p (eStep p xs) (xs.length : ℝ)).weights c
              * (mlMStep cfg p (eStep p xs) (xs.length : ℝ)).means c d
          = (xs.map fun x => x d).sum / xs.length) ∧
    (cfg.updVars = true → (∀ c d, cfg.varFloor c d ≤ mlRawVar cfg p (eStep p xs) c d) →
      ∀ d, ∑ c, (mlMStep cfg p (eStep p xs) (xs.length : ℝ)).weights c
              * ((mlMStep cfg p (eStep p xs) (xs.length : ℝ)).variances c d
                 + (mlMStep cfg p (eStep p xs) (xs.length : ℝ)).means c d
                   * (mlMStep cfg p (eStep p xs) (xs.length : ℝ)).means c d)
          = (xs.map fun x => x d * x d).sum / xs.length) := by
  have hpos : ∀ c, (eStep p xs).n c ≠ 0 := fun c => (lt_of_lt_of_le hthr (hcount c)).ne'
  obtain ⟨h1, h2⟩ := C02_moments_sum_to_data p xs
  -- with no floor active: `w' = N / T`, `μ' = F / N`, `v' = S / N − (F / N)²`
  have hW : ∀ c, (mlMStep cfg p (eStep p xs) (xs.length : ℝ)).weights c = (eStep p xs).n c / xs.length := fun c => by
    rw [mlMStep_weights _ _ _ _ hw, max_eq_left (hcount c)]
  have hM : ∀ c d, (mlMStep cfg p (eStep p xs) (xs.length : ℝ)).means c d = (eStep p xs).sumPx c d / (eStep p xs).n c :=
    fun c d => mlMeans_of_count cfg p _ hm (hcount c) d
  refine ⟨fun d => ?_, fun hv hfl d => ?_⟩
  · rw [← h1 d, Finset.sum_div]
    refine Finset.sum_congr rfl fun c _ => ?_
    rw [hW, hM, div_mul_div_comm, mul_comm, mul_div_mul_right _ _ (hpos c)]
  · rw [← h2 d, Finset.sum_div]
    refine Finset.sum_congr rfl fun c _ => ?_
    rw [hW, hM, mlMStep_variances _ _ _ _ hv (hcount c), max_eq_right (hfl c d), mlRawVar_of_count cfg p _ hm (hcount c),
      sub_add_cancel, div_mul_div_comm, mul_comm, mul_div_mul_right _ _ (hpos c)]

/-- ML training does not depend on how the components are numbered: one iteration from the relabelled
model (floors relabelled alike) gives the relabelled result and the same criterion, for all switch
combinations, with count and variance floors active or not (iterating the statement gives the same
for any number of iterations, since the criterion, on which the stopping test runs, is unchanged) -/
theorem C03_iteration_relabel_equivariant (cfg : MlCfg (C+1) D ℝ) (p : Params (C+1) D ℝ)
    (σ : Equiv.Perm (Fin (C+1))) (xs : List (Fin D → ℝ)) :
    gmmMlIter (cfg.relabel σ) xs (p.relabel' σ) = (((gmmMlIter cfg xs p).1).relabel' σ, (gmmMlIter cfg xs p).2) := by
  unfold gmmMlIter
  rw [show p.relabel' σ = p.relabel σ from rfl, eStep_relabel]
  exact Prod.ext (mlMStep_relabel cfg p _ _ σ) rfl
