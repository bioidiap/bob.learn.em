import BobEM.Lemmas.KMeansDescent
import BobEM.Lemmas.Loop

/-!
# C06 — K-means training descends the true distortion and stops by its stated rule

Model: `BobEM.assign`, `kEStep`, `kMStep`, `kIter`, `kFit` (`kmeans.py: e_step, m_step,
KMeansMachine.fit`).  The E-step returns the **sum** of minimum distances (D1 repair) and a
cluster without samples keeps its centroid (D2 repair).
-/

open BobEM

variable {K D : ℕ}

/-- distortion × N of centroids `c` on data `xs`: Σ_x min_k ‖x − c_k‖² -/
theorem C06_dist_is_sum_of_min (cent : Fin (K+1) → Fin D → ℝ) (xs : List (Fin D → ℝ)) :
    (kEStep cent xs).dist = (xs.map fun x => sqDist x (cent (assign cent x))).sum ∧
    ∀ x k, sqDist x (cent (assign cent x)) ≤ sqDist x (cent k) :=
  ⟨kEStep_dist cent xs, fun x k => assign_le cent x k⟩

/-- **Descent**: one iteration leaves the (sum, hence mean) squared distance to the nearest
centroid equal or lower.  With the D2 rule this holds even if a cluster is empty. -/
theorem C06_lloyd_descent (cent : Fin (K+1) → Fin D → ℝ) (xs : List (Fin D → ℝ)) :
    (kEStep (kIter [xs] cent).1 xs).dist ≤ (kEStep cent xs).dist := by
  rw [kIter_eq, List.flatten_singleton, kEStep_dist, kEStep_dist]
  exact lloyd_descent cent xs

/-- every returned centroid is the arithmetic mean of the samples nearest to its predecessor -/
theorem C06_centroid_is_mean (cent : Fin (K+1) → Fin D → ℝ) (xs : List (Fin D → ℝ)) (k : Fin (K+1)) (j : Fin D)
    (hne : (xs.countP fun x => assign cent x = k) ≠ 0) :
    (kIter [xs] cent).1 k j
      = ((xs.filter fun x => assign cent x = k).map fun x => x j).sum
          / ((xs.filter fun x => assign cent x = k).length : ℝ) := by
  rw [kIter_eq, kMStep_cent, List.flatten_singleton, if_neg fun h => hne (by rw [List.countP_eq_length_filter, h]; rfl)]

/-- additivity of the E-step statistics over row blocks -/
theorem C06_estep_additive (cent : Fin (K+1) → Fin D → ℝ) (xs ys : List (Fin D → ℝ)) :
    kEStep cent (xs ++ ys) = (kEStep cent xs).add (kEStep cent ys) := kEStep_append cent xs ys

/-- an iteration on any list of row blocks equals the iteration on the whole array -/
theorem C06_chunking_independent (cent : Fin (K+1) → Fin D → ℝ) (blocks : List (List (Fin D → ℝ))) :
    kIter blocks cent = kIter [blocks.flatten] cent := by
  rw [kIter_eq, kIter_eq, List.flatten_singleton]

/-- the reported criterion is the mean squared distance to the nearest of the centroids entering
the iteration, for every chunking -/
theorem C06_criterion_is_distortion (cent : Fin (K+1) → Fin D → ℝ) (blocks : List (List (Fin D → ℝ))) :
    (kIter blocks cent).2
      = (blocks.flatten.map fun x => sqDist x (cent (assign cent x))).sum / (blocks.flatten.length : ℝ) := by
  rw [kIter_eq, kMStep, kEStep_dist]
  rfl

/-- the criterion of the pinned commit on a single block is the distortion divided by N once more (D1) -/
theorem C06_old_criterion_single_block (cent : Fin (K+1) → Fin D → ℝ) (xs : List (Fin D → ℝ)) :
    kCritOld cent [xs] = (kIter [xs] cent).2 / (xs.length : ℝ) := by
  simp only [kIter_eq, kCritOld, kMStep, List.flatten_singleton, List.map_cons, List.map_nil, lsum_eq, List.sum_cons,
    List.sum_nil, add_zero, Transc.ofNat]

/-- **Stopping rule** (same loop as the GMM) -/
theorem C06_stop_rule (thr : Option ℝ) (maxIter : ℕ) (c0 : ℝ) (cent0 : Fin (K+1) → Fin D → ℝ)
    (blocks : List (List (Fin D → ℝ))) :
    ∃ k, k ≤ maxIter ∧
      kFit thr maxIter c0 cent0 blocks = ((traj (kIter blocks) cent0 c0 k).1, k) ∧
      (∀ j t, 2 ≤ j → j < k → thr = some t →
          t < relChange (traj (kIter blocks) cent0 c0 (j-1)).2 (traj (kIter blocks) cent0 c0 j).2) ∧
      (k = maxIter ∨ (2 ≤ k ∧ ∃ t, thr = some t ∧
          relChange (traj (kIter blocks) cent0 c0 (k-1)).2 (traj (kIter blocks) cent0 c0 k).2 ≤ t)) :=
  emLoop_convStop_spec (kIter blocks) thr cent0 c0 maxIter

/-- **every sample is counted exactly once — ties included**: the E-step's counts add up to the number
of samples, whatever the data (a sample exactly equidistant from two centroids goes to the first of
them, in the counts and in the sums alike: both are defined through the same `assign`) -/
theorem C06_counts_partition (cent : Fin (K+1) → Fin D → ℝ) (xs : List (Fin D → ℝ)) :
    ∑ k, (kEStep cent xs).n k = xs.length :=
  sum_countP_eq_length xs (assign cent)

/-- and the per-cluster sums add up to the sum of all samples (no sample enters two clusters' sums) -/
theorem C06_sums_partition (cent : Fin (K+1) → Fin D → ℝ) (xs : List (Fin D → ℝ)) (j : Fin D) :
    ∑ k, (kEStep cent xs).sums k j = (xs.map fun x => x j).sum := by
  simp only [kEStep, lsum_eq]
  exact (sum_by_cluster xs (assign cent) fun x _ => x j).symm

/-- zero-row blocks (what filtering or concatenating Dask arrays leaves in a chunking) change nothing:
the iteration on a list of blocks equals the iteration on the same list with its empty blocks removed,
wherever they stand -/
theorem C06_zero_row_blocks_irrelevant (cent : Fin (K+1) → Fin D → ℝ) (blocks : List (List (Fin D → ℝ))) :
    kIter blocks cent = kIter (blocks.filter fun b => !b.isEmpty) cent := by
  rw [C06_chunking_independent cent blocks, C06_chunking_independent cent (blocks.filter _), List.flatten_filter_not_isEmpty]
