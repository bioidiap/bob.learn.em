import BobEM.Model.GmmState
import BobEM.Lemmas.Real

/-!
# C17 — A GMM's likelihood reflects its current visible parameters, whatever its history

Model: `BobEM.GState` with the setters of `gmm.py` (`weights`, `means`, `variances`,
`variance_thresholds`), M-steps as setter sequences, `clone` for deepcopy / pickle / HDF5 round
trips; `GState.logLik?` computes the likelihood **from the caches**.
-/

open BobEM

variable {C D : ℕ}

/-- no stale cache, no variance below its current floor -/
def Coherent (s : GState C D ℝ) : Prop :=
  (s.logWeights = fun c => Real.log (s.weights c)) ∧
  (∀ v, s.variances = some v → s.gNorms = some (gNormOf v) ∧ ∀ c d, s.thresholds c d ≤ v c d) ∧
  (s.variances = none → s.gNorms = none)

theorem C17_coherent_init (w : Fin C → ℝ) (thr : ℝ) : Coherent (GState.init (D := D) w thr) :=
  ⟨rfl, fun v h => by simp [GState.init] at h, fun _ => rfl⟩

theorem coherent_setWeights {s : GState C D ℝ} (h : Coherent s) (w : Fin C → ℝ) : Coherent (s.setWeights w) :=
  ⟨rfl, h.2.1, h.2.2⟩
theorem coherent_setMeans {s : GState C D ℝ} (h : Coherent s) (m : Fin C → Fin D → ℝ) : Coherent (s.setMeans m) :=
  ⟨h.1, h.2.1, h.2.2⟩
/-- only the cached log-weights are needed: `setThresholds` calls this setter on a state whose floors
have just changed -/
theorem coherent_setVariances {s : GState C D ℝ} (h : s.logWeights = fun c => Real.log (s.weights c))
    (v : Fin C → Fin D → ℝ) : Coherent (s.setVariances v) := by
  refine ⟨h, fun v' hv' => ?_, fun hn => by simp [GState.setVariances] at hn⟩
  simp only [GState.setVariances, Option.some.injEq] at hv'
  subst hv'
  exact ⟨rfl, fun c d => le_max_left _ _⟩
theorem coherent_setThresholds {s : GState C D ℝ} (h : Coherent s) (t : Fin C → Fin D → ℝ) :
    Coherent (s.setThresholds t) := by
  unfold GState.setThresholds
  cases hv : s.variances with
  | none => exact ⟨h.1, fun v' hv' => by simp at hv', fun _ => h.2.2 hv⟩
  | some v => exact coherent_setVariances (s := { s with thresholds := t }) h.1 _

/-- the invariant is preserved by every public operation … -/
theorem C17_coherent_step {s : GState C D ℝ} (h : Coherent s) (op : GOp C D ℝ) : Coherent (s.step op) := by
  cases op with
  | setWeights w => exact coherent_setWeights h w
  | setMeans m => exact coherent_setMeans h m
  | setVariances v => exact coherent_setVariances h.1 v
  | setThresholds t => exact coherent_setThresholds h t
  | clone => exact h
  | mStep a =>
    simp only [GState.step]
    have h1 : Coherent (s.assignW a.weights) := by
      cases hw : a.weights with
      | none => exact h
      | some w => exact coherent_setWeights h w
    have h2 : Coherent ((s.assignW a.weights).assignM a.means) := by
      cases hm : a.means with
      | none => exact h1
      | some m => exact coherent_setMeans h1 _
    unfold GState.assignV
    split
    · exact coherent_setVariances h2.1 _
    · exact h2

theorem coherent_run {s : GState C D ℝ} (h : Coherent s) (ops : List (GOp C D ℝ)) : Coherent (s.run ops) := by
  unfold GState.run
  induction ops generalizing s with
  | nil => exact h
  | cons op ops ih => exact ih (C17_coherent_step h op)

/-- … hence holds after any finite sequence of operations from a fresh machine -/
theorem C17_coherent_invariant (w : Fin C → ℝ) (thr : ℝ) (ops : List (GOp C D ℝ)) :
    Coherent ((GState.init (D := D) w thr).run ops) :=
  coherent_run (C17_coherent_init w thr) ops

/-- **Refinement**: in every coherent (= every reachable) state the likelihood computed from the
caches is the likelihood of the visible parameters -/
theorem C17_refines_fresh {s : GState (C+1) D ℝ} (h : Coherent s) (x : Fin D → ℝ) :
    s.logLik? x = s.params?.map fun p => logLik p x := by
  unfold GState.logLik? GState.params?
  cases hm : s.means with
  | none => rfl
  | some m =>
    cases hv : s.variances with
    | none => rfl
    | some v =>
      obtain ⟨hg, _⟩ := h.2.1 v hv
      simp only [hg, Option.map_some, Option.some.injEq, logLik]
      congr 1
      funext c
      simp [lwlCached, lwl, gNorm, gNormOf, h.1, Transc.log]

/-- variances are never below the current floors -/
theorem C17_variances_ge_floors (w : Fin C → ℝ) (thr : ℝ) (ops : List (GOp C D ℝ)) (v : Fin C → Fin D → ℝ)
    (hv : ((GState.init (D := D) w thr).run ops).variances = some v) (c : Fin C) (d : Fin D) :
    ((GState.init (D := D) w thr).run ops).thresholds c d ≤ v c d :=
  ((C17_coherent_invariant w thr ops).2.1 v hv).2 c d

/-- a reachable state with means and variances set **is** the state of a freshly built machine given
the same floors, weights, means and variances (so every later computation agrees too) -/
theorem C17_equals_fresh {s : GState C D ℝ} (h : Coherent s) (m v : Fin C → Fin D → ℝ)
    (hm : s.means = some m) (hv : s.variances = some v) (thr0 : ℝ) :
    ((((GState.init (D := D) s.weights thr0).setThresholds s.thresholds).setMeans m).setVariances v) = s := by
  obtain ⟨hg, hfl⟩ := h.2.1 v hv
  have hmax : (fun c d => max (s.thresholds c d) (v c d)) = v := by
    funext c d; exact max_eq_right (hfl c d)
  cases s with
  | mk w lw ms vs th gn =>
    simp only at hm hv hg hfl hmax
    have hlw := h.1
    simp only at hlw
    subst hm hv hg hlw
    simp [GState.init, GState.setThresholds, GState.setMeans, GState.setVariances, hmax, Transc.log]

theorem fun2_vec2 {n m : ℕ} (f : Fin n → Fin m → ℝ) : fun2 (vec2 f) = f := by
  funext i j; simp [fun2, vec2]
theorem fun1_vec1 {n : ℕ} (f : Fin n → ℝ) : fun1 (vec1 f) = f := by
  funext i; simp [fun1, vec1]
theorem ofV_toV (s : GState C D ℝ) : s.toV.ofV = s := by
  cases s with
  | mk w lw ms vs th gn =>
    simp only [GState.toV, GStateV.ofV, fun1_vec1, fun2_vec2, Option.map_map]
    congr 1
    · cases ms <;> simp [fun2_vec2]
    · cases vs <;> simp [fun2_vec2]
    · cases gn <;> simp [fun1_vec1]

/-- the executed (materialised) state machine computes the same states as the specification -/
theorem C17_exec_eq_spec (s : GState C D ℝ) (ops : List (GOp C D ℝ)) :
    (s.toV.run ops).ofV = s.run ops := by
  unfold GStateV.run GState.run
  induction ops generalizing s with
  | nil => exact ofV_toV s
  | cons op ops ih =>
    simp only [List.foldl_cons, GStateV.step, ofV_toV]
    exact ih _

/-- non-vacuity: lowering then raising a floor and re-assigning variances keeps the invariant and
ends above the floor -/
example : Coherent ((GState.init (C := 1) (D := 1) (fun _ => 1) 0).run
    [.setMeans (fun _ _ => 0), .setVariances (fun _ _ => 1), .setThresholds (fun _ _ => 2), .setThresholds (fun _ _ => 1/2)]) :=
  C17_coherent_invariant _ _ _
