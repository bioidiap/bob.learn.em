import BobEM.Props.C02
import BobEM.Lemmas.KMeansDescent
import BobEM.Props.C17

/-!
# C13 — Trained models are valid: finite, weights on the simplex, variances above floors

Over the reals "finite" has no content; what *is* provable, and what makes the float statement true,
is that every division and logarithm in the model is taken at an argument in range, and that the
simplex / floor invariants hold.  Model: `mlMStep`, `mapMStepG`, `GState` setters, `kMStep`,
`vReduce` (`gmm.py`, `kmeans.py`).
-/

open BobEM

variable {C D K : ℕ}

/-- ML weights are non-negative and sum to one up to the documented count floor:
`1 ≤ Σ w' ≤ 1 + C·thr/T`; with no floor active they sum to exactly one -/
theorem C13_ml_weights (cfg : MlCfg C D ℝ) (p : Params C D ℝ) (st : Stats C D ℝ) (t : ℝ)
    (hw : cfg.updWeights = true) (hn : ∀ c, 0 ≤ st.n c) (hsum : ∑ c, st.n c = t) (ht : 0 < t) (hthr : 0 ≤ cfg.countThr) :
    (∀ c, 0 ≤ (mlMStep cfg p st t).weights c) ∧
    1 ≤ ∑ c, (mlMStep cfg p st t).weights c ∧
    ∑ c, (mlMStep cfg p st t).weights c ≤ 1 + C * cfg.countThr / t ∧
    ((∀ c, cfg.countThr ≤ st.n c) → ∑ c, (mlMStep cfg p st t).weights c = 1) := by
  simp only [mlMStep_weights cfg p st t hw, ← Finset.sum_div]
  refine ⟨fun c => div_nonneg (le_trans (hn c) (le_max_left _ _)) ht.le, ?_, ?_, ?_⟩
  · rw [le_div_iff₀ ht, one_mul, ← hsum]
    exact Finset.sum_le_sum fun c _ => le_max_left _ _
  · rw [← div_self ht.ne', ← add_div, div_le_div_iff_of_pos_right ht, ← hsum]
    calc ∑ c, max (st.n c) cfg.countThr ≤ ∑ c : Fin C, (st.n c + cfg.countThr) :=
          Finset.sum_le_sum fun c _ => max_le (le_add_of_nonneg_right hthr) (le_add_of_nonneg_left (hn c))
      _ = _ := by rw [Finset.sum_add_distrib, Finset.sum_const, Finset.card_univ, Fintype.card_fin, nsmul_eq_mul]
  · intro hfl
    simp only [fun c => max_eq_left (hfl c), hsum, div_self ht.ne']

/-- every division in the ML M-step has a positive denominator, and the new weights are positive
(so their logarithm is defined), as soon as the count floor is positive -/
theorem C13_ml_division_sites (cfg : MlCfg C D ℝ) (p : Params C D ℝ) (st : Stats C D ℝ) (t : ℝ)
    (hw : cfg.updWeights = true) (ht : 0 < t) (hthr : 0 < cfg.countThr) (c : Fin C) :
    0 < max (st.n c) cfg.countThr ∧ 0 < (mlMStep cfg p st t).weights c := by
  have h : 0 < max (st.n c) cfg.countThr := lt_of_lt_of_le hthr (le_max_right _ _)
  exact ⟨h, (mlMStep_weights cfg p st t hw c).symm ▸ div_pos h ht⟩

/-- the shape of `(mlMStep …).variances` and `(mapMStepG …).variances` -/
theorem floor_le_ite_max {b : Bool} {fl v f : Fin C → Fin D → ℝ} (hp : ∀ c d, fl c d ≤ v c d) (c : Fin C) (d : Fin D) :
    fl c d ≤ (if b = true then fun c d => max (fl c d) (f c d) else v) c d := by
  cases b
  · exact hp c d
  · exact le_max_left _ _

/-- variances after an ML or MAP M-step are at or above their floors, hence positive for positive
floors (so `log` of a variance and division by it are defined) -/
theorem C13_variances_ge_floor (cfg : MlCfg C D ℝ) (p : Params C D ℝ) (st : Stats C D ℝ) (t : ℝ)
    (hp : ∀ c d, cfg.varFloor c d ≤ p.variances c d) (hf : ∀ c d, 0 < cfg.varFloor c d) (c : Fin C) (d : Fin D) :
    cfg.varFloor c d ≤ (mlMStep cfg p st t).variances c d ∧ 0 < (mlMStep cfg p st t).variances c d :=
  ⟨floor_le_ite_max hp c d, (hf c d).trans_le (floor_le_ite_max hp c d)⟩

theorem C13_map_variances_ge_floor (sq : ℝ → ℝ) (cfg : MapCfg C D ℝ) (ubm p : Params C D ℝ) (st : Stats C D ℝ) (t : ℝ)
    (hp : ∀ c d, cfg.varFloor c d ≤ p.variances c d) (hf : ∀ c d, 0 < cfg.varFloor c d) (c : Fin C) (d : Fin D) :
    cfg.varFloor c d ≤ (mapMStepG sq cfg ubm p st t).variances c d ∧ 0 < (mapMStepG sq cfg ubm p st t).variances c d :=
  ⟨floor_le_ite_max hp c d, (hf c d).trans_le (floor_le_ite_max hp c d)⟩

/-- MAP division sites: `n + r > 0`, the evidence branch divides by `n ≥ thr > 0`, and the
normaliser `γ` of the weights is positive -/
theorem C13_map_division_sites (cfg : MapCfg C D ℝ) (ubm : Params C D ℝ) (st : Stats C D ℝ) (t : ℝ)
    (hn : ∀ c, 0 ≤ st.n c) (hr : 0 < cfg.relevance) (ht : 0 < t) (hw0 : ∀ c, 0 < ubm.weights c)
    (ha : ∀ c, 0 ≤ mapAlpha cfg st c ∧ mapAlpha cfg st c < 1) (hC : 0 < C) :
    (∀ c, 0 < st.n c + cfg.relevance) ∧ 0 < ∑ c, mapRawWeight cfg ubm st t c := by
  have : Nonempty (Fin C) := ⟨⟨0, hC⟩⟩
  refine ⟨fun c => add_pos_of_nonneg_of_pos (hn c) hr, Finset.sum_pos (fun c _ => ?_) Finset.univ_nonempty⟩
  have h1 : 0 ≤ mapAlpha cfg st c * (st.n c / t) := mul_nonneg (ha c).1 (div_nonneg (hn c) ht.le)
  have h2 : 0 < (1 - mapAlpha cfg st c) * ubm.weights c := mul_pos (sub_pos.mpr (ha c).2) (hw0 c)
  exact add_pos_of_nonneg_of_pos h1 h2

/-- the responsibilities' denominator (the mixture density) is positive: `log_likelihood` is the log
of a positive number -/
theorem C13_mixture_positive (p : Params (C+1) D ℝ) (x : Fin D → ℝ) : 0 < ∑ c, Real.exp (lwl p x c) :=
  sum_exp_pos _

/-- **k-means (D2 rule)**: a cluster that attracts no sample keeps its centroid; every other
centroid is a quotient with a positive denominator -/
theorem C13_kmeans_empty_cluster_keeps_centroid (cent : Fin K → Fin D → ℝ) (st : KStats K D ℝ) (n : ℕ) (k : Fin K) (j : Fin D) :
    (st.n k = 0 → (kMStep cent st n).1 k j = cent k j) ∧
    (st.n k ≠ 0 → (kMStep cent st n).1 k j = st.sums k j / (st.n k : ℝ) ∧ (0:ℝ) < (st.n k : ℝ)) := by
  refine ⟨fun h => by simp [kMStep, h], fun h => ⟨by simp [kMStep, h, Transc.ofNat], ?_⟩⟩
  exact_mod_cast Nat.pos_of_ne_zero h

/-- the variance/weight reduction never divides by a zero count -/
theorem C13_kmeans_safe_count (st : VStats K D ℝ) (k : Fin K) :
    (0:ℝ) < (if st.cnt k = 0 then (1:ℝ) else ((st.cnt k : ℕ) : ℝ)) := by
  split_ifs with h
  · norm_num
  · exact_mod_cast Nat.pos_of_ne_zero h

/-- in every reachable machine state variances respect the floors (C17's invariant) -/
theorem C13_state_variances_ge_floor (w : Fin C → ℝ) (thr : ℝ) (ops : List (GOp C D ℝ)) (v : Fin C → Fin D → ℝ)
    (hv : ((GState.init (D := D) w thr).run ops).variances = some v) (c : Fin C) (d : Fin D) :
    ((GState.init (D := D) w thr).run ops).thresholds c d ≤ v c d :=
  C17_variances_ge_floors w thr ops v hv c d

/-- D26 (known finding, DESIGN §9.3), the real-number side: a sample's responsibilities sum to one, so
normalising them per sample — the repair that was not made because it moves pinned reference values
at rounding level — is the identity. That the code counts a sample beyond ~2^53 component spacings
once per tied component is a floating-point effect (`log k` lost in the rounding of a log-likelihood
of order 1e40) which no theorem over ℝ can show; the check shows it on the code. -/
theorem C13_resp_normalisation_is_identity (p : Params (C+1) D ℝ) (x : Fin D → ℝ) (c : Fin (C+1)) :
    resp p x c / ∑ c', resp p x c' = resp p x c := by
  rw [resp_sum_one, div_one]

/-- and the E-step's counts add up to the number of samples (what `Σ_c n_c = t` means for the weights
of one ML iteration: they sum to one) -/
theorem C13_counts_sum_to_samples (p : Params (C+1) D ℝ) (xs : List (Fin D → ℝ)) :
    ∑ c, (xs.map fun x => resp p x c).sum = xs.length := by
  have h := (C02_resp_simplex p xs).2
  simp only [eStep, lsum_eq] at h
  exact h

/-- the unit variances that `fit` supplies to a machine whose means were set by hand go through the
clamping setter like any other assignment: with floors above 1 (data in large units) the machine
trains with `max(floor, 1)`, never with a variance below its floor -/
theorem C13_supplied_unit_variances_clamped {C D : ℕ} (s : GState C D ℝ) :
    (s.setVariances fun _ _ => 1).variances = some (fun c d => max (s.thresholds c d) 1) ∧
    ∀ v, (s.setVariances fun _ _ => 1).variances = some v → ∀ c d, s.thresholds c d ≤ v c d := by
  refine ⟨rfl, ?_⟩
  intro v hv c d
  simp only [GState.setVariances, Option.some.injEq] at hv
  rw [← hv]
  exact le_max_left _ _
