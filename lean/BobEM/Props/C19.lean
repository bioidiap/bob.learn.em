import BobEM.Model.Own
import Mathlib.Tactic

/-!
# C19 — Training and scoring never modify or alias caller-owned data

Model: `BobEM.Own` — effect summaries of calls on a heap of array cells.  The theorems are about
any sequence of calls that obeys the (decidable) discipline `Effect.ok`; that the real entry points
obey it is what the correspondence observes (bitwise snapshots before/after, `np.shares_memory`).
-/

open BobEM.Own

/-- all calls of a sequence obey the discipline, starting from world `w` -/
def AllOk : World → List Effect → Prop
  | _, [] => True
  | w, e :: es => e.ok w = true ∧ AllOk (w.step e) es

theorem firstViolation_none_iff (w : World) (es : List Effect) (i : ℕ) :
    firstViolation w es i = none ↔ AllOk w es := by
  induction es generalizing w i with
  | nil => simp [firstViolation, AllOk]
  | cons e es ih =>
    simp only [firstViolation, AllOk]
    by_cases h : e.ok w = true
    · simp [h, ih]
    · simp [h]

theorem Effect.ok_iff (w : World) (e : Effect) : e.ok w = true ↔
    (∀ c ∈ e.writes, c ∉ w.caller ∨ c ∈ e.handedOver) ∧ ∀ c ∈ e.holds, c ∉ w.caller := by
  simp only [Effect.ok, List.contains_eq_mem, Bool.and_eq_true, List.all_eq_true, Bool.or_eq_true,
    Bool.not_eq_eq_eq_not, Bool.not_true, decide_eq_false_iff_not, decide_eq_true_eq]

/-- the discipline reads only `w.caller`, which no call changes: the world threaded through `AllOk` may stay fixed -/
theorem allOk_iff (w : World) (es : List Effect) : AllOk w es ↔ ∀ e ∈ es, e.ok w = true := by
  induction es generalizing w with
  | nil => simp [AllOk]
  | cons e es ih => rw [AllOk, ih, List.forall_mem_cons]; rfl

theorem run_of_not_written {V : Type} (calls : List (Effect × (ℕ → V))) (h : ℕ → V) (c : ℕ)
    (hw : ∀ ec ∈ calls, c ∉ ec.1.writes) : run h calls c = h c := by
  induction calls generalizing h with
  | nil => rfl
  | cons ec rest ih =>
    rw [List.forall_mem_cons] at hw
    rw [run, ih _ hw.2, applyEffect, if_neg (by simpa using hw.1)]

/-- **Frame**: along any disciplined call sequence, every caller-owned cell that was not explicitly
handed over keeps its contents bit for bit -/
theorem C19_frame {V : Type} (w : World) (calls : List (Effect × (ℕ → V))) (h : ℕ → V)
    (hok : AllOk w (calls.map (·.1))) (c : ℕ) (hc : c ∈ w.caller)
    (hnot : ∀ e ∈ calls.map (·.1), c ∉ e.handedOver) :
    run h calls c = h c :=
  run_of_not_written calls h c fun ec hec hw =>
    have he := List.mem_map_of_mem (f := (·.1)) hec
    (((Effect.ok_iff w ec.1).mp ((allOk_iff w _).mp hok _ he)).1 c hw).elim (fun h => h hc) (hnot _ he)

/-- **No aliasing**: along any disciplined call sequence, no cell held by an estimator (attribute or
returned result) is a caller-owned cell -/
theorem C19_no_alias (w : World) (es : List Effect) (hok : AllOk w es)
    (h0 : ∀ c ∈ w.est, c ∉ w.caller) :
    ∀ c ∈ (es.foldl World.step w).est, c ∉ w.caller := by
  rw [allOk_iff] at hok
  induction es generalizing w with
  | nil => exact h0
  | cons e es ih =>
    rw [List.forall_mem_cons] at hok
    refine ih (w.step e) hok.2 fun c hc => ?_
    rcases List.mem_append.mp hc with hc | hc
    · exact ((Effect.ok_iff w e).mp hok.1).2 c hc
    · exact h0 c hc

/-- **Reuse**: a result that is a function of caller-owned inputs is reproduced by a later identical
call, because those inputs are unchanged -/
theorem C19_reuse {V R : Type} (w : World) (calls : List (Effect × (ℕ → V))) (h : ℕ → V)
    (hok : AllOk w (calls.map (·.1))) (hnot : ∀ e ∈ calls.map (·.1), ∀ c ∈ w.caller, c ∉ e.handedOver)
    (inputs : List ℕ) (hin : ∀ c ∈ inputs, c ∈ w.caller) (f : List V → R) :
    f (inputs.map (run h calls)) = f (inputs.map h) :=
  congrArg f (List.map_congr_left fun c hc =>
    C19_frame w calls h hok c (hin c hc) fun e he => hnot e he c (hin c hc))

/-- non-vacuity: a call that writes only its own fresh cell 7 and keeps it, caller owns 1 and 2 -/
example : AllOk ⟨[1, 2], []⟩ [⟨[7], [7], []⟩, ⟨[7], [7, 8], []⟩] :=
  (firstViolation_none_iff _ _ 0).mp (by decide)
/-- and the checker rejects a call that keeps the caller's cell 2 (the `max_iter = 0` aliasing, D15) -/
example : firstViolation ⟨[1, 2], []⟩ [⟨[], [7], []⟩, ⟨[], [2], []⟩] 0 = some 1 := by decide
