import BobEM.Model.Sched
import BobEM.Lemmas.Sched
import BobEM.Lemmas.Iso
import BobEM.Lemmas.SumDag
import BobEM.Props.C02
import BobEM.Props.C06

/-!
# C04 — Array training is independent of chunking, task order and worker isolation

Model: per-block iterations `gmmMlIterBlocks`, `gmmMapIterBlocks`, `kIter` (one E-step task per row
block, `reduce(iadd)`, one M-step), `BobEM.Sched` (recorded task graphs with observed effects).
-/

open BobEM BobEM.Sched

variable {C D K : ℕ}

theorem reduceIadd_eq (l : List (Stats C D ℝ)) : reduceIadd l = l.foldl Stats.add Stats.zero := by
  cases l with
  | nil => rfl
  | cons s rest => simp only [reduceIadd, List.foldl_cons, Stats.add, Stats.zero, zero_add]

theorem reduceIadd_eStep (p : Params (C+1) D ℝ) (blocks : List (List (Fin D → ℝ))) :
    reduceIadd (blocks.map (eStep p)) = eStep p blocks.flatten := by
  rw [reduceIadd_eq, ← C02_any_partition]

/-- **Chunking (GMM, ML)**: an iteration over any list of row blocks is the in-memory iteration on
the concatenation; hence whole trainings agree in every iterate, the reported criterion and the
number of iterations -/
theorem C04_gmm_ml_chunking_independent (cfg : MlCfg (C+1) D ℝ) (thr : Option ℝ) (fuel : ℕ)
    (p0 : Params (C+1) D ℝ) (blocks : List (List (Fin D → ℝ))) :
    gmmMlIterBlocks cfg blocks = gmmMlIter cfg blocks.flatten ∧
    gmmMlFitBlocks cfg thr fuel p0 blocks = gmmMlFit cfg thr fuel p0 blocks.flatten := by
  have h : gmmMlIterBlocks cfg blocks = gmmMlIter cfg blocks.flatten := by
    funext p
    simp only [gmmMlIterBlocks, gmmMlIter, reduceIadd_eStep]
  exact ⟨h, by unfold gmmMlFitBlocks gmmMlFit; rw [h]⟩

/-- **Chunking (GMM, MAP)**: the same for one MAP iteration (either variance blend), hence for every loop run on it -/
theorem C04_gmm_map_chunking_independent (sq : ℝ → ℝ) (cfg : MapCfg (C+1) D ℝ) (ubm : Params (C+1) D ℝ)
    (blocks : List (List (Fin D → ℝ))) :
    gmmMapIterBlocks sq cfg ubm blocks = gmmMapIter sq cfg ubm blocks.flatten := by
  funext p
  simp only [gmmMapIterBlocks, gmmMapIter, reduceIadd_eStep]

/-- **Chunking (k-means)**: same centroids, same reported criterion, same number of iterations -/
theorem C04_kmeans_chunking_independent (thr : Option ℝ) (fuel : ℕ) (c0 : ℝ) (cent0 : Fin (K+1) → Fin D → ℝ)
    (blocks : List (List (Fin D → ℝ))) :
    kFit thr fuel c0 cent0 blocks = kFit thr fuel c0 cent0 [blocks.flatten] := by
  have h : kIter (K := K) blocks = kIter [blocks.flatten] := by
    funext cent; exact C06_chunking_independent cent blocks
  unfold kFit; rw [h]

variable {Val : Type}

theorem disjoint_sound {a b : List ℕ} (h : disjoint a b = true) : Disjoint {l | l ∈ a} {l | l ∈ b} := by
  simp only [disjoint, List.all_eq_true, Bool.not_eq_true', List.contains_eq_mem, decide_eq_false_iff_not] at h
  exact Set.disjoint_left.mpr h

/-- semantic execution of a recorded graph: task `i` of the graph runs its read/write function,
other ids do nothing -/
noncomputable def runOf (g : List TaskEff) (sem : ℕ → RWTask ℕ Val) (i : ℕ) (s : ℕ → Val) : ℕ → Val :=
  if g.any (fun t => t.id == i) then (sem i).run s else s

/-- **Order independence**: if the recorded graph passes the model's discipline check, then any two
executions that respect the dependency closure (whatever order the scheduler picks among ready
tasks) produce the same store — results and shared objects alike -/
theorem C04_order_independent (g : List TaskEff) (sem : ℕ → RWTask ℕ Val)
    (hsem : ∀ t ∈ g, (sem t.id).reads = {l | l ∈ t.reads} ∧ (sem t.id).writes = {l | l ∈ t.writes})
    (hd : disciplined g = true)
    (l1 l2 : List ℕ) (hp : l1.Perm l2) (hnd : l1.Nodup)
    (h1 : l1.Pairwise fun a b => ¬ reach g g.length b a = true)
    (h2 : l2.Pairwise fun a b => ¬ reach g g.length b a = true) (s : ℕ → Val) :
    exec (runOf g sem) l1 s = exec (runOf g sem) l2 s := by
  refine linear_extensions_agree (runOf g sem) (fun i j => reach g g.length i j = true)
    (fun i j hij hnij hnji s => ?_) l1 l2 hp hnd h1 h2 s
  unfold runOf
  -- an id that is no task of the graph runs nothing, and then both orders give the same store
  cases hi : g.any (fun t => t.id == i) <;> cases hj : g.any (fun t => t.id == j) <;> try rfl
  obtain ⟨t, ht, hti⟩ := List.any_eq_true.mp hi
  obtain ⟨u, hu, huj⟩ := List.any_eq_true.mp hj
  obtain rfl := beq_iff_eq.mp hti
  obtain rfl := beq_iff_eq.mp huj
  -- distinct and unordered: the discipline check leaves Bernstein's conditions
  have hpair := List.all_eq_true.mp (List.all_eq_true.mp hd t ht) u hu
  rw [Bool.or_eq_true, Bool.or_eq_true, beq_iff_eq, ordered, Bool.or_eq_true] at hpair
  replace hpair := hpair.resolve_left fun h => h.elim hij fun h => h.elim hnij hnji
  rw [pairOk, Bool.and_eq_true, Bool.and_eq_true] at hpair
  obtain ⟨hrt, hwt⟩ := hsem t ht
  obtain ⟨hru, hwu⟩ := hsem u hu
  refine bernstein_commute (sem t.id) (sem u.id) ?_ ?_ ?_ s
  · rw [hwt, hwu]; exact disjoint_sound hpair.1.1
  · rw [hwt, hru]; exact disjoint_sound hpair.1.2
  · rw [hwu, hrt]; exact disjoint_sound hpair.2

/-- **Worker isolation**: tasks that write no shared object, followed by one writer all of whose
shared writes the caller copies back from the writer's (non-shared) result, leave the caller in the
same state whether the tasks ran on the shared objects or on private copies taken at submission -/
theorem C04_isolation_independent {Loc : Type} (Sh F : Set Loc) (ret : Loc → Loc) (s0 : Loc → Val)
    (rs : List (RWTask Loc Val)) (w : RWTask Loc Val)
    (hr : ∀ t ∈ rs, Disjoint t.writes Sh)
    (hF : ∀ l, l ∈ w.writes → l ∈ Sh → l ∈ F)
    (hFw : ∀ l ∈ F, l ∈ w.writes ∧ l ∈ Sh ∧ ret l ∈ w.writes ∧ ret l ∉ Sh) :
    copyBack F ret (w.runIso Sh s0 (rs.foldl (fun s t => t.runIso Sh s0 s) s0))
      = copyBack F ret (w.run (rs.foldl (fun s t => t.run s) s0)) :=
  isolated_eq_shared Sh F ret s0 rs w hr hF hFw

/-- the model's isolation check delivers the first two hypotheses of the theorem above -/
theorem isolationOk_sound (g : List TaskEff) (final : ℕ) (shared copyBack : List ℕ)
    (h : isolationOk g final shared copyBack = true) :
    (∀ t ∈ g, t.id ≠ final → Disjoint {l | l ∈ t.writes} {l | l ∈ shared}) ∧
    (∀ t ∈ g, t.id = final → ∀ l ∈ t.writes, l ∈ shared → l ∈ copyBack) := by
  have h := List.all_eq_true.mp h
  refine ⟨fun t ht hne => disjoint_sound ?_, fun t ht he l hl hs => ?_⟩
  · simpa only [beq_iff_eq, hne, if_false] using h t ht
  · have := h t ht
    rw [if_pos (beq_iff_eq.mpr he)] at this
    simpa [hs] using List.all_eq_true.mp this l hl

/-- non-vacuity: three readers of location 0 with private results 1–3, one reducer writing 0 and its
result 4 — the shape of every training iteration — passes the discipline check -/
example : disciplined [⟨1, [], [0], [1]⟩, ⟨2, [], [0], [2]⟩, ⟨3, [], [0], [3]⟩, ⟨4, [1, 2, 3], [0, 1, 2, 3], [0, 1, 4]⟩] = true := by
  decide
/-- and a graph in which a reader also writes the shared location is rejected -/
example : firstConflict [⟨1, [], [0], [0, 1]⟩, ⟨2, [], [0], [2]⟩, ⟨4, [1, 2], [0, 1, 2], [0, 4]⟩] = some (1, 2) := by
  decide

/-- **every block's statistics enter each M-step exactly once** — for any shape of the reduction
between the per-block E-step tasks (`workers`) and the M-step (`final`): a recorded graph that is in
dependency order and passes the executable `exactlyOnce` check delivers exactly `Σ_w (result of w)`,
each worker once, none dropped, none twice, provided every task in between adds up its dependencies
(`M` is any commutative monoid: the statistics with their `+`) -/
theorem C04_blocks_exactly_once {M : Type} [AddCommMonoid M] (g : List TaskEff) (final : ℕ) (workers : List ℕ)
    (result : ℕ → M) (ht : topoOrdered g = true) (he : exactlyOnce g final workers = true) (fuel : ℕ)
    (hf : g.length < fuel) :
    dagVal (depsOf g) (fun x => workers.contains x) result fuel final = ∑ w ∈ workers.toFinset, result w :=
  exactlyOnce_sound g final workers result ht he fuel hf

/-- non-vacuity: three E-step tasks handed to the M-step as one list (the GMM / k-means shape), and a
pairwise tree over three E-step tasks with the unpaired one carried over (the i-vector shape), pass -/
example : topoOrdered [⟨1, [], [0], [1]⟩, ⟨2, [], [0], [2]⟩, ⟨3, [], [0], [3]⟩, ⟨4, [1, 2, 3], [0, 1, 2, 3], [0, 1, 4]⟩] = true
    ∧ exactlyOnce [⟨1, [], [0], [1]⟩, ⟨2, [], [0], [2]⟩, ⟨3, [], [0], [3]⟩, ⟨4, [1, 2, 3], [0, 1, 2, 3], [0, 1, 4]⟩] 4 [1, 2, 3] = true := by
  decide
example : exactlyOnce [⟨1, [], [], [1]⟩, ⟨2, [], [], [2]⟩, ⟨3, [], [], [3]⟩, ⟨4, [1, 2], [1, 2], [4]⟩, ⟨5, [4, 3], [4, 3], [5]⟩, ⟨6, [5], [5], [6]⟩] 6 [1, 2, 3] = true := by
  decide
/-- a reduction that forms groups over `range(0, length - 1, 2)` drops the last of three workers; a
reduction that pairs a worker with itself counts it twice: both are rejected, with the count -/
example : firstMiscount [⟨1, [], [], [1]⟩, ⟨2, [], [], [2]⟩, ⟨3, [], [], [3]⟩, ⟨4, [1, 2], [1, 2], [4]⟩, ⟨6, [4], [4], [6]⟩] 6 [1, 2, 3] = some (3, 0) := by
  decide
example : firstMiscount [⟨1, [], [], [1]⟩, ⟨2, [], [], [2]⟩, ⟨4, [1, 2], [1, 2], [4]⟩, ⟨5, [4, 2], [4, 2], [5]⟩, ⟨6, [5], [5], [6]⟩] 6 [1, 2] = some (2, 2) := by
  decide

/-- zero-row blocks change nothing in GMM training either: every iteration, and the whole fit with its
criterion and iteration count, is the same with the empty blocks removed (each block contributes its
rows to `t`, an empty block contributes none) -/
theorem C04_zero_row_blocks_irrelevant {C D : ℕ} (cfg : MlCfg (C+1) D ℝ) (thr : Option ℝ) (fuel : ℕ)
    (p0 : Params (C+1) D ℝ) (blocks : List (List (Fin D → ℝ))) :
    gmmMlFitBlocks cfg thr fuel p0 blocks = gmmMlFitBlocks cfg thr fuel p0 (blocks.filter fun b => !b.isEmpty) := by
  rw [(C04_gmm_ml_chunking_independent cfg thr fuel p0 blocks).2,
    (C04_gmm_ml_chunking_independent cfg thr fuel p0 (blocks.filter _)).2, List.flatten_filter_not_isEmpty]
