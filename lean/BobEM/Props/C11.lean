import BobEM.Lemmas.FAIdent
import BobEM.Lemmas.Fold

/-!
# C11 — ISV/JFA scores are channel-compensated linear scores, same via every entry point

Model: `BobEM.FA.estimateX`, `estimateUx`, `pooled`, `clientMean`, `score`, `scoreUsingArray`,
`enrollUsingArray`, `transform` (`factor_analysis.py: estimate_x, estimate_ux, ISVMachine.score /
JFAMachine.score, score_using_array, enroll_using_array, ISVMachine.transform`).
ISV is the case `rV = 0`.
-/

open Matrix BobEM BobEM.FA

variable {C D rU rV : ℕ}

/-- the score **is** the frame-normalised linear score of the client mean `m + V y + D z` against
the pooled probe statistics, with the UBM means shifted by the probe's own channel offset `U x̂` -/
theorem C11_score_is_linear_score (M : Model C D rU rV ℝ) (y : Fin rV → ℝ) (z : Fin C → Fin D → ℝ)
    (sts : List (St C D ℝ)) (eps : ℝ) :
    score M y z sts eps
      = linearScore M.m M.s (fun c d => M.m c d + (apply M.V y c d + M.Dd c d * z c d))
          ⟨(pooled sts).n, (pooled sts).f, (pooled sts).t⟩ (apply M.U (estimateX M sts)) true eps := by
  have h : (fun c d => apply M.V y c d + M.Dd c d * z c d + M.m c d)
      = fun c d => M.m c d + (apply M.V y c d + M.Dd c d * z c d) := by funext c d; ring
  unfold score clientMean estimateUx
  simp only [h]

/-- `x̂` is the posterior mean of the channel factor given the pooled statistics: the solution of
`(I + Uᵀ Σ⁻¹ N U) x = Uᵀ Σ⁻¹ (F − N m)` -/
theorem C11_x_solves_system (M : Model C D rU rV ℝ) (sts : List (St C D ℝ))
    (hn : ∀ c, 0 ≤ nAcc sts c) (hs : ∀ c d, 0 < M.s c d) (a : Fin rU) :
    ∑ b, (eye rU a b + prodN M M.U (nAcc sts) a b) * estimateX M sts b
      = projT M M.U (fun c d => fAcc sts c d - M.m c d * nAcc sts c) a := by
  have h := posDef_mul_inv_mulVec (faPrecision_posDef M M.U _ hn hs)
    (projT M M.U fun c d => fAcc sts c d - M.m c d * nAcc sts c)
  rw [← mulVec_idPlusInv] at h
  exact congrFun h a

/-- and it is the maximiser of the probe's channel-factor log-posterior
`bᵀx − ½ xᵀ(I + Uᵀ Σ⁻¹ N U)x` -/
theorem C11_x_is_posterior_mode (M : Model C D rU rV ℝ) (sts : List (St C D ℝ))
    (hn : ∀ c, 0 ≤ nAcc sts c) (hs : ∀ c d, 0 < M.s c d) (x : Fin rU → ℝ) :
    let P : Matrix (Fin rU) (Fin rU) ℝ := Matrix.of fun a b => eye rU a b + prodN M M.U (nAcc sts) a b
    let b := projT M M.U (fun c d => fAcc sts c d - M.m c d * nAcc sts c)
    b ⬝ᵥ x - (1/2) * (x ⬝ᵥ (P *ᵥ x))
      ≤ b ⬝ᵥ estimateX M sts - (1/2) * (estimateX M sts ⬝ᵥ (P *ᵥ estimateX M sts)) := by
  intro P b
  have hP : P.PosDef := faPrecision_posDef M M.U _ hn hs
  rw [show estimateX M sts = P⁻¹ *ᵥ b from mulVec_idPlusInv ..]
  exact quadF_le_argmax hP b x

theorem pooled_n (sts : List (St C D ℝ)) : (pooled sts).n = nAcc sts :=
  funext fun c => (reduce_proj St.add pooled (·.n c) rfl (fun _ _ => rfl) (fun _ _ => rfl) sts).trans (lsum_eq _).symm

theorem pooled_f (sts : List (St C D ℝ)) : (pooled sts).f = fAcc sts :=
  funext fun c => funext fun d =>
    (reduce_proj St.add pooled (·.f c d) rfl (fun _ _ => rfl) (fun _ _ => rfl) sts).trans (lsum_eq _).symm

/-- pooling holds for every list of statistics, the empty one included (`pooled [s]` is `s` by definition) -/
theorem score_pooled (M : Model C D rU rV ℝ) (y : Fin rV → ℝ) (z : Fin C → Fin D → ℝ) (sts : List (St C D ℝ)) (eps : ℝ) :
    score M y z sts eps = score M y z [pooled sts] eps := by
  have hx : estimateX M sts = estimateX M [pooled sts] := by
    unfold estimateX
    rw [← pooled_n sts, ← pooled_f sts, ← pooled_n [pooled sts], ← pooled_f [pooled sts]]
    rfl
  unfold score estimateUx
  rw [hx]
  rfl

/-- **Pooling**: scoring a probe given as several statistics equals scoring their sum -/
theorem C11_pooling (M : Model C D rU rV ℝ) (y : Fin rV → ℝ) (z : Fin C → Fin D → ℝ)
    (sts : List (St C D ℝ)) (hne : sts ≠ []) (eps : ℝ) :
    score M y z sts eps = score M y z [pooled sts] eps :=
  score_pooled M y z sts eps

/-- the array-level entry points are the statistics-level ones on the UBM statistics of the arrays -/
theorem C11_entry_points {β : Type} (acc : β → St C D ℝ) (M : Model C D rU rV ℝ) (y : Fin rV → ℝ)
    (z : Fin C → Fin D → ℝ) (datas : List β) (X : β) (k : ℕ) (eps : ℝ) :
    scoreUsingArray acc M y z datas eps = score M y z (datas.map acc) eps ∧
    enrollUsingArray acc M X k = enroll M [acc X] k ∧
    transform acc M X = apply M.U (estimateX M [acc X]) :=
  ⟨rfl, rfl, rfl⟩

/-- non-vacuity: one component, one feature, rank-one U -/
example : ∃ (M : Model 1 1 1 0 ℝ) (sts : List (St 1 1 ℝ)), (∀ c, 0 ≤ nAcc sts c) ∧ (∀ c d, 0 < M.s c d) ∧ sts ≠ [] :=
  ⟨⟨fun _ _ => 0, fun _ _ => 1, fun _ _ _ => 1, fun _ _ i => i.elim0, fun _ _ => 1⟩, [⟨fun _ => 2, fun _ _ => 1, 2⟩],
    by intro c; simp [nAcc, lsum_eq], by intro c d; norm_num, by simp⟩
