import BobEM.Lemmas.GmmDensity
import BobEM.Lemmas.GmmEM
import BobEM.Lemmas.Fold

/-!
# C02 — GMM statistics are responsibility-weighted moments, additive over any split

Model: `BobEM.eStep` (`gmm.py: e_step`), `BobEM.Stats.add` (`GMMStats.__add__/__iadd__`),
`BobEM.RawStats.add?` (the declared-shape check), the `functools.reduce(operator.iadd, …)` of
`m_step` = `List.foldl Stats.add`.
-/

open BobEM ProbabilityTheory
open scoped NNReal

variable {C D : ℕ}

/-- the statistics are the sample count, the sums of responsibilities, the responsibility-weighted
first and second moments and the total log-likelihood -/
theorem C02_stats_are_moments (p : Params (C+1) D ℝ) (xs : List (Fin D → ℝ)) :
    (eStep p xs).t = xs.length ∧
    (∀ c, (eStep p xs).n c = (xs.map fun x => resp p x c).sum) ∧
    (∀ c d, (eStep p xs).sumPx c d = (xs.map fun x => resp p x c * x d).sum) ∧
    (∀ c d, (eStep p xs).sumPxx c d = (xs.map fun x => resp p x c * (x d * x d)).sum) ∧
    (eStep p xs).ll = (xs.map (logLik p)).sum := by
  refine ⟨rfl, fun c => ?_, fun c d => ?_, fun c d => ?_, ?_⟩ <;>
    simp only [eStep, lsum_eq, resp, Transc.exp, mul_assoc]

/-- the responsibility is the Bayes posterior `w_c N_c(x) / Σ_k w_k N_k(x)` -/
theorem C02_resp_is_posterior (p : Params (C+1) D ℝ) (x : Fin D → ℝ)
    (v : Fin (C+1) → Fin D → ℝ≥0) (hvne : ∀ c d, v c d ≠ 0) (hv : ∀ c d, p.variances c d = v c d)
    (hw : ∀ c, 0 < p.weights c) (c : Fin (C+1)) :
    resp p x c = (p.weights c * ∏ d, gaussianPDFReal (p.means c d) (v c d) (x d))
      / ∑ k, p.weights k * ∏ d, gaussianPDFReal (p.means k d) (v k d) (x d) := by
  unfold resp
  rw [Real.exp_sub, exp_lwl_eq p x v hvne hv hw c, exp_logLik_eq p x v hvne hv hw]

/-- responsibilities only distribute a sample over the components, they never create or lose mass:
the responsibility-weighted sums of any per-sample `f` add up to the plain sum of `f` -/
theorem C02_weighted_sums_conserve (p : Params (C+1) D ℝ) (xs : List (Fin D → ℝ)) (f : (Fin D → ℝ) → ℝ) :
    ∑ c, (xs.map fun x => resp p x c * f x).sum = (xs.map f).sum := by
  induction xs with
  | nil => simp
  | cons x xs ih =>
    simp only [List.map_cons, List.sum_cons, Finset.sum_add_distrib, ih, ← Finset.sum_mul, resp_sum_one, one_mul]

/-- responsibilities are non-negative and add up to the number of samples -/
theorem C02_resp_simplex (p : Params (C+1) D ℝ) (xs : List (Fin D → ℝ)) :
    (∀ c, 0 ≤ (eStep p xs).n c) ∧ ∑ c, (eStep p xs).n c = xs.length := by
  simp only [(C02_stats_are_moments p xs).2.1]
  constructor
  · intro c
    refine List.sum_nonneg fun r hr => ?_
    obtain ⟨x, -, rfl⟩ := List.mem_map.mp hr
    exact (resp_pos p x c).le
  · simpa using C02_weighted_sums_conserve p xs fun _ => 1
#print axioms C02_resp_simplex

theorem C02_additive (p : Params (C+1) D ℝ) (xs ys : List (Fin D → ℝ)) :
    eStep p (xs ++ ys) = (eStep p xs).add (eStep p ys) := by
  unfold eStep Stats.add
  simp only [lsum_eq, List.map_append, List.sum_append, List.length_append]

theorem C02_any_partition (p : Params (C+1) D ℝ) (blocks : List (List (Fin D → ℝ))) :
    eStep p blocks.flatten = (blocks.map (eStep p)).foldl Stats.add Stats.zero :=
  fold_add_flatten Stats.add Stats.zero (eStep p) (by simp [eStep, Stats.zero, lsum_eq]) (C02_additive p) blocks

#print axioms C02_any_partition

/-- responsibilities are non-negative and add up to the number of samples -/
theorem C02_resp_simplex' (p : Params (C+1) D ℝ) (xs : List (Fin D → ℝ)) :
    (∀ c, 0 ≤ (eStep p xs).n c) ∧ ∑ c, (eStep p xs).n c = xs.length :=
  C02_resp_simplex p xs

/-- `+` / `+=` of the statistics of two row blocks is the statistics of their concatenation -/
theorem C02_additive' (p : Params (C+1) D ℝ) (xs ys : List (Fin D → ℝ)) :
    eStep p (xs ++ ys) = (eStep p xs).add (eStep p ys) := C02_additive p xs ys

/-- every split of the rows into consecutive blocks (any number, any sizes, empty blocks allowed),
accumulated per block and folded with `+=` from a fresh container, gives the statistics of the whole -/
theorem C02_any_partition' (p : Params (C+1) D ℝ) (blocks : List (List (Fin D → ℝ))) :
    eStep p blocks.flatten = (blocks.map (eStep p)).foldl Stats.add Stats.zero :=
  C02_any_partition p blocks

/-- the statistics do not depend on the order of the rows … -/
theorem C02_perm (p : Params (C+1) D ℝ) {xs ys : List (Fin D → ℝ)} (h : xs.Perm ys) :
    eStep p xs = eStep p ys := by
  unfold eStep
  simp only [lsum_eq]
  have hl := h.length_eq  -- `congr` uses it for the field `t`
  congr 1
  · funext c; exact (h.map _).sum_eq
  · funext c d; exact (h.map _).sum_eq
  · funext c d; exact (h.map _).sum_eq
  · exact (h.map _).sum_eq

/-- … hence any arrangement of the rows into blocks (arbitrary, not only consecutive) adds up to
the statistics of the whole data set -/
theorem C02_any_arrangement (p : Params (C+1) D ℝ) (xs : List (Fin D → ℝ))
    (blocks : List (List (Fin D → ℝ))) (h : blocks.flatten.Perm xs) :
    (blocks.map (eStep p)).foldl Stats.add Stats.zero = eStep p xs := by
  rw [← C02_any_partition, C02_perm p h]

/-- addition is refused exactly when the declared shapes differ; otherwise every field is the sum -/
theorem C02_add_refuses_mismatch (a b : RawStats ℝ) :
    (a.add? b = none ↔ (a.nG, a.nF) ≠ (b.nG, b.nF)) ∧
    (∀ s, a.add? b = some s → s.ll = a.ll + b.ll ∧ s.t = a.t + b.t ∧
        s.n = Array.zipWith (· + ·) a.n b.n ∧ s.nG = a.nG ∧ s.nF = a.nF) := by
  unfold RawStats.add?
  constructor
  · by_cases h : a.nG ≠ b.nG ∨ a.nF ≠ b.nF
    · simp only [h, if_true, ne_eq, Prod.mk.injEq, not_and_or]
    · simp only [h, if_false]
      push Not at h
      simp [h.1, h.2]
  · intro s hs
    by_cases h : a.nG ≠ b.nG ∨ a.nF ≠ b.nF
    · simp [h] at hs
    · simp only [h, if_false, Option.some.injEq] at hs
      subst hs; exact ⟨rfl, rfl, rfl, rfl, rfl⟩

/-- conservation: summed over the components, the first- and second-order statistics are the column
sums of the data and of their squares, whatever the machine — a statistic that drops, duplicates or
re-weights a sample breaks one of them -/
theorem C02_moments_sum_to_data (p : Params (C+1) D ℝ) (xs : List (Fin D → ℝ)) :
    (∀ d, ∑ c, (eStep p xs).sumPx c d = (xs.map fun x => x d).sum) ∧
    (∀ d, ∑ c, (eStep p xs).sumPxx c d = (xs.map fun x => x d * x d).sum) := by
  obtain ⟨-, -, h1, h2, -⟩ := C02_stats_are_moments p xs
  refine ⟨fun d => ?_, fun d => ?_⟩
  · simp only [h1]; exact C02_weighted_sums_conserve p xs fun x => x d
  · simp only [h2]; exact C02_weighted_sums_conserve p xs fun x => x d * x d

/-- non-vacuity of the split theorem: three blocks, one of them empty -/
example (p : Params 2 1 ℝ) (a b c : Fin 1 → ℝ) :
    eStep p [a, b, c] = (([[a], [], [b, c]] : List (List (Fin 1 → ℝ))).map (eStep p)).foldl Stats.add Stats.zero :=
  C02_any_partition p [[a], [], [b, c]]
