import BobEM.Lemmas.FATrainIdent

/-!
# C09 — Each JFA training phase is exact EM: its marginal likelihood never decreases

Model: `BobEM.FA.eStepV / stepV / finalizeV / eStepU / stepU / finalizeU / eStepD / stepD / jfaFit`
(`factor_analysis.py: JFAMachine.e_step_v, m_step_v, finalize_v, e_step_u, m_step_u, finalize_u,
e_step_d, m_step_d, fit`).  Each phase is identified with the abstract linear-Gaussian EM step
(`Lemmas/LinGauss.lean`, proved for any latent dimension); the phase objective is the marginal
likelihood of the training statistics with the latent factors of that phase integrated out and the
other subspaces and their point estimates held fixed, as the code holds them.
-/

open BobEM.FA

variable {C D rU rV : ℕ}

/-- shapes are preserved by construction: the subspaces stay (components × features) × rank and
`D` stays one value per supervector entry (typing of `Model`), and an iteration touches only the
matrix of its phase -/
theorem C09_shapes (M : Model C D rU rV ℝ) (classes : List (List (St C D ℝ))) (ys : List (Fin rV → ℝ))
    (xss : List (List (Fin rU → ℝ))) :
    ((stepV M classes).U = M.U ∧ (stepV M classes).Dd = M.Dd) ∧
    ((stepU M classes ys).V = M.V ∧ (stepU M classes ys).Dd = M.Dd) ∧
    ((stepD M classes xss ys).U = M.U ∧ (stepD M classes xss ys).V = M.V) :=
  ⟨⟨rfl, rfl⟩, ⟨rfl, rfl⟩, ⟨rfl, rfl⟩⟩

/-- the V iteration of the code is exactly the abstract EM step on rows = supervector entries,
items = classes -/
theorem C09_V_step_is_em (M : Model C D rU rV ℝ) (classes : List (List (St C D ℝ)))
    (hn : ∀ sts ∈ classes, ∀ c, 0 ≤ nAcc sts c) (hs : ∀ c d, 0 < M.s c d)
    (hA1 : ∀ k, (accA1 (NV classes) (FV M classes) (sigmaOf M) (rowsOf M.V) k).PosDef) :
    rowsOf (stepV M classes).V = emStep (NV classes) (FV M classes) (sigmaOf M) (rowsOf M.V) :=
  stepV_eq_emStep M classes hn hs hA1

/-- the U iteration of the code is exactly the abstract EM step on items = sessions -/
theorem C09_U_step_is_em (M : Model C D rU rV ℝ) (classes : List (List (St C D ℝ))) (ys : List (Fin rV → ℝ))
    (hA1 : ∀ k, (accA1 (NU (sessionsOf classes ys)) (FU M (sessionsOf classes ys)) (sigmaOf M) (rowsOf M.U) k).PosDef) :
    rowsOf (stepU M classes ys).U
      = emStep (NU (sessionsOf classes ys)) (FU M (sessionsOf classes ys)) (sigmaOf M) (rowsOf M.U) :=
  stepU_eq_emStep M classes ys hA1

/-- **V phase**: for every UBM with positive variances, all training statistics with non-negative
(fractional) counts in which every component is observed by some class, every rank and every current
`V`: the marginal likelihood does not decrease -/
theorem C09_V_phase_monotone (M : Model C D rU rV ℝ) (classes : List (List (St C D ℝ)))
    (hn : ∀ sts ∈ classes, ∀ c, 0 ≤ nAcc sts c) (hs : ∀ c d, 0 < M.s c d)
    (hpos : ∀ c, ∃ i : Fin classes.length, 0 < nAcc classes[i] c) :
    margV M classes M.V ≤ margV M classes (stepV M classes).V :=
  marg_le_of_eq_emStep (NV classes) (FV M classes) (sigmaOf M) (fun i k => hn _ (List.getElem_mem _) k.1)
    (fun k => hs k.1 k.2) (fun k => hpos k.1) (rowsOf M.V) (rowsOf (stepV M classes).V) (stepV_eq_emStep M classes hn hs)
#print axioms C09_V_phase_monotone

/-- **U phase** (speaker factors fixed at the values `finalize_v` returned) -/
theorem C09_U_phase_monotone (M : Model C D rU rV ℝ) (classes : List (List (St C D ℝ))) (ys : List (Fin rV → ℝ))
    (hn : ∀ q ∈ sessionsOf classes ys, ∀ c, 0 ≤ q.1.n c) (hs : ∀ c d, 0 < M.s c d)
    (hpos : ∀ c, ∃ i : Fin (sessionsOf classes ys).length, 0 < (sessionsOf classes ys)[i].1.n c) :
    margU M (sessionsOf classes ys) M.U ≤ margU M (sessionsOf classes ys) (stepU M classes ys).U :=
  marg_le_of_eq_emStep (NU (sessionsOf classes ys)) (FU M (sessionsOf classes ys)) (sigmaOf M)
    (fun i k => hn _ (List.getElem_mem _) k.1) (fun k => hs k.1 k.2) (fun k => hpos k.1) (rowsOf M.U)
    (rowsOf (stepU M classes ys).U) (stepU_eq_emStep M classes ys)
#print axioms C09_U_phase_monotone

/-- **D phase** (speaker and channel factors fixed): one independent one-dimensional problem per
supervector entry -/
theorem C09_D_phase_monotone (M : Model C D rU rV ℝ) (classes : List (List (St C D ℝ)))
    (xss : List (List (Fin rU → ℝ))) (ys : List (Fin rV → ℝ)) (hs : ∀ c d, 0 < M.s c d)
    (hn : ∀ q ∈ (classes.zip xss).zip ys, ∀ c, 0 ≤ nAcc q.1.1 c)
    (hpos : ∀ c, ∃ i : Fin ((classes.zip xss).zip ys).length, 0 < nAcc ((classes.zip xss).zip ys)[i].1.1 c) :
    margD M ((classes.zip xss).zip ys) M.Dd ≤ margD M ((classes.zip xss).zip ys) (stepD M classes xss ys).Dd := by
  refine Finset.sum_le_sum fun c _ => Finset.sum_le_sum fun d _ => ?_
  exact marg_le_of_eq_emStep (ρ := Unit) (ND ((classes.zip xss).zip ys) c) (FD M _ c d) (fun _ => M.s c d)
    (fun i _ => hn _ (List.getElem_mem _) c) (fun _ => hs c d) (fun _ => hpos c)
    (fun _ _ => M.Dd c d) (fun _ _ => (stepD M classes xss ys).Dd c d) fun _ =>
      funext fun _ => funext fun _ => stepD_entry M _ c d (hs c d) fun q hq => hn q hq c
#print axioms C09_D_phase_monotone

/-- non-vacuity: one component, one feature, two classes with positive counts meet the hypotheses -/
example : ∃ (M : Model 1 1 1 1 ℝ) (classes : List (List (St 1 1 ℝ))),
    (∀ sts ∈ classes, ∀ c, 0 ≤ nAcc sts c) ∧ (∀ c d, 0 < M.s c d) ∧ (∀ c, ∃ i : Fin classes.length, 0 < nAcc classes[i] c) := by
  have h1 : ∀ (s : St 1 1 ℝ) c, nAcc [s] c = s.n c := fun s c => by
    simp only [nAcc, lsum_eq, List.map_cons, List.map_nil, List.sum_cons, List.sum_nil, add_zero]
  refine ⟨⟨fun _ _ => 0, fun _ _ => 1, fun _ _ _ => 1, fun _ _ _ => 1, fun _ _ => 1⟩,
    [[⟨fun _ => 2, fun _ _ => 1, 2⟩], [⟨fun _ => 3, fun _ _ => -1, 3⟩]], ?_, fun _ _ => one_pos,
    fun c => ⟨⟨0, Nat.zero_lt_two⟩, (h1 _ c).symm ▸ two_pos⟩⟩
  intro sts hsts c
  simp only [List.mem_cons, List.not_mem_nil, or_false] at hsts
  rcases hsts with rfl | rfl
  · exact (h1 _ c).symm ▸ zero_le_two
  · exact (h1 _ c).symm ▸ zero_le_three
