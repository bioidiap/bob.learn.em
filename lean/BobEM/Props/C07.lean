import BobEM.Lemmas.EnrollMode
import BobEM.Lemmas.Fold

/-!
# C07 — ISV and JFA enrolment climbs to the joint posterior mode of the latent factors

Model: `BobEM.FA.updateY`, `latentX`, `updateZ`, `sweep`, `enroll`, `logPost`
(`factor_analysis.py: update_y / _compute_fn_y_i / _compute_id_plus_vprod_i, compute_latent_x,
update_z, ISVMachine.enroll, JFAMachine.enroll`).  ISV is the case `rV = 0`.
`updateY` conditions on `m + D z` (repair of D7).  `logPost` is the joint log-posterior of the
enrolment data and the latent factors under `mean = m + V y + U x_h + D z`, standard-normal priors and
the UBM's diagonal covariances, written in terms of the enrolment statistics.
-/

open Matrix BobEM.FA

variable {C D rU rV : ℕ}

/-- the speaker-factor update solves `(I + Vᵀ Σ⁻¹ N V) y = Vᵀ Σ⁻¹ (F − N (m + D z) − Σ_h N_h U x_h)`
(the factor `1` is the sign argument of `updateYG`) -/
theorem C07_y_solves_normal_equations (M : Model C D rU rV ℝ) (sts : List (St C D ℝ)) (xs : List (Fin rU → ℝ))
    (z : Fin C → Fin D → ℝ) (hn : ∀ c, 0 ≤ nAcc sts c) (hs : ∀ c d, 0 < M.s c d) :
    faPrecision M M.V (nAcc sts) *ᵥ updateY M sts xs z
      = projT M M.V (fun c d => fAcc sts c d - nAcc sts c * (M.m c d + 1 * (M.Dd c d * z c d)) - uxTerm M sts xs c d) := by
  rw [updateY, updateYG, vecMul_idPlusInv]
  exact posDef_mul_inv_mulVec (faPrecision_posDef M M.V _ hn hs) _

/-- each channel-factor update solves `(I + Uᵀ Σ⁻¹ N_h U) x = Uᵀ Σ⁻¹ (F_h − N_h (m + D z + V y))` -/
theorem C07_x_solves_normal_equations (M : Model C D rU rV ℝ) (st : St C D ℝ) (y : Fin rV → ℝ)
    (z : Fin C → Fin D → ℝ) (hn : ∀ c, 0 ≤ st.n c) (hs : ∀ c d, 0 < M.s c d) :
    faPrecision M M.U st.n *ᵥ latentX M st y z
      = projT M M.U (fun c d => st.f c d - st.n c * (M.m c d + M.Dd c d * z c d) - st.n c * apply M.V y c d) := by
  rw [latentX, mulVec_idPlusInv]
  exact posDef_mul_inv_mulVec (faPrecision_posDef M M.U _ hn hs) _

/-- the residual-offset update solves the diagonal system -/
theorem C07_z_closed_form (M : Model C D rU rV ℝ) (sts : List (St C D ℝ)) (xs : List (Fin rU → ℝ))
    (y : Fin rV → ℝ) (c : Fin C) (d : Fin D) (hn : 0 ≤ nAcc sts c) (hs : 0 < M.s c d) :
    (1 + M.Dd c d / M.s c d * M.Dd c d * nAcc sts c) * updateZ M sts xs y c d
      = M.Dd c d / M.s c d * (fAcc sts c d - nAcc sts c * (M.m c d + apply M.V y c d) - uxTerm M sts xs c d) :=
  z_closed_form M sts xs y c d hn hs

/-- **the y update is the block maximiser**: no other value of the speaker factor gives a higher
joint log-posterior with the channel factors and the offset fixed -/
theorem C07_block_is_argmax_y (M : Model C D rU rV ℝ) (sts : List (St C D ℝ)) (y' : Fin rV → ℝ) (xs : List (Fin rU → ℝ))
    (z : Fin C → Fin D → ℝ) (hlen : xs.length = sts.length)
    (hn : ∀ st ∈ sts, ∀ c, 0 ≤ st.n c) (hs : ∀ c d, 0 < M.s c d) :
    logPost M sts ⟨y', xs, z⟩ ≤ logPost M sts ⟨updateY M sts xs z, xs, z⟩ := by
  obtain ⟨H, S, X, rfl, rfl⟩ := exists_ofFn₂ sts xs hlen
  rw [logPost_jObj, logPost_jObj]
  refine (jObj_isQuad M S).le_of_coord_grad_zero _ _ (fun j => ?_)
    (quad_nonneg (jP_posDef M S (nonneg_ofFn hn) hs).posSemidef _)
  -- a coordinate of the y block has zero gradient at the update; the others do not move
  rcases j with a | hu | cd
  · exact .inl (jGrad_updateY M S X z a (nAcc_nonneg _ hn) hs)
  · exact .inr (sub_self _)
  · exact .inr (sub_self _)
#print axioms C07_block_is_argmax_y

/-- **the x updates are the block maximisers** (all sessions at once: they are independent given y, z) -/
theorem C07_block_is_argmax_x (M : Model C D rU rV ℝ) (sts : List (St C D ℝ)) (y : Fin rV → ℝ) (z : Fin C → Fin D → ℝ)
    (xs' : List (Fin rU → ℝ)) (hlen : xs'.length = sts.length)
    (hn : ∀ st ∈ sts, ∀ c, 0 ≤ st.n c) (hs : ∀ c d, 0 < M.s c d) :
    logPost M sts ⟨y, xs', z⟩ ≤ logPost M sts ⟨y, sts.map fun st => latentX M st y z, z⟩ := by
  obtain ⟨H, S, X, rfl, rfl⟩ := exists_ofFn₂ sts xs' hlen
  rw [List.map_ofFn, logPost_jObj, logPost_jObj]
  refine (jObj_isQuad M S).le_of_coord_grad_zero _ _ (fun j => ?_)
    (quad_nonneg (jP_posDef M S (nonneg_ofFn hn) hs).posSemidef _)
  rcases j with a | hu | cd
  · exact .inr (sub_self _)
  · exact .inl (jGrad_latentX M S y _ z hu.1 hu.2 rfl (nonneg_ofFn hn hu.1) hs)
  · exact .inr (sub_self _)
#print axioms C07_block_is_argmax_x

/-- **the z update is the block maximiser** -/
theorem C07_block_is_argmax_z (M : Model C D rU rV ℝ) (sts : List (St C D ℝ)) (y : Fin rV → ℝ) (xs : List (Fin rU → ℝ))
    (z' : Fin C → Fin D → ℝ) (hlen : xs.length = sts.length)
    (hn : ∀ c, 0 ≤ nAcc sts c) (hs : ∀ c d, 0 < M.s c d) :
    logPost M sts ⟨y, xs, z'⟩ ≤ logPost M sts ⟨y, xs, updateZ M sts xs y⟩ := by
  obtain ⟨H, S, X, rfl, rfl⟩ := exists_ofFn₂ sts xs hlen
  rw [logPost_jObj, logPost_jObj]
  refine (jObj_isQuad M S).le_of_coord_grad_zero _ _ (fun j => ?_)
    ((dot_self_nonneg _).trans (z_curvature M S y X _ z' hn hs))
  rcases j with a | hu | cd
  · exact .inr (sub_self _)
  · exact .inr (sub_self _)
  · exact .inl (jGrad_updateZ M S y X cd.1 cd.2 (hn _) (hs _ _))
#print axioms C07_block_is_argmax_z

/-- one enrolment iteration (y, then every x_h, then z) never decreases the joint log-posterior -/
theorem sweep_ascent (M : Model C D rU rV ℝ) (sts : List (St C D ℝ)) (l : Lat C D rU rV ℝ)
    (hlen : l.xs.length = sts.length) (hn : ∀ st ∈ sts, ∀ c, 0 ≤ st.n c) (hs : ∀ c d, 0 < M.s c d) :
    logPost M sts l ≤ logPost M sts (sweep M sts l) :=
  (C07_block_is_argmax_y M sts l.y l.xs l.z hlen hn hs).trans <|
    (C07_block_is_argmax_x M sts _ l.z l.xs hlen hn hs).trans <|
      C07_block_is_argmax_z M sts _ _ l.z (List.length_map ..) (nAcc_nonneg sts hn) hs

/-- **enrolment is monotone**: the joint log-posterior after `k + 1` iterations is at least that after
`k`, for ISV (`rV = 0`) and JFA, any number of sessions, fractional counts -/
theorem C07_enroll_monotone (M : Model C D rU rV ℝ) (sts : List (St C D ℝ)) (k : ℕ)
    (hn : ∀ st ∈ sts, ∀ c, 0 ≤ st.n c) (hs : ∀ c d, 0 < M.s c d) :
    logPost M sts (enroll M sts k) ≤ logPost M sts (enroll M sts (k + 1)) :=
  sweep_ascent M sts _ (enroll_xs_length M sts k) hn hs
#print axioms C07_enroll_monotone

/-- hence the posterior of `k` iterations is non-decreasing in `k` -/
theorem C07_enroll_monotone_le (M : Model C D rU rV ℝ) (sts : List (St C D ℝ)) (j k : ℕ) (hjk : j ≤ k)
    (hn : ∀ st ∈ sts, ∀ c, 0 ≤ st.n c) (hs : ∀ c d, 0 < M.s c d) :
    logPost M sts (enroll M sts j) ≤ logPost M sts (enroll M sts k) :=
  monotone_nat_of_le_succ (fun k => C07_enroll_monotone M sts k hn hs) hjk

/-- **the joint mode exists and is unique**: one latent state (with one channel factor per session)
has a joint log-posterior at least that of every other, and strictly larger than that of any
different one.  (`logPost` is a strictly concave quadratic of the flattened latent vector:
`logPost_joint`.) -/
theorem C07_mode_exists_unique (M : Model C D rU rV ℝ) (sts : List (St C D ℝ))
    (hn : ∀ st ∈ sts, ∀ c, 0 ≤ st.n c) (hs : ∀ c d, 0 < M.s c d) :
    ∃ m : Lat C D rU rV ℝ, m.xs.length = sts.length ∧
      ∀ l' : Lat C D rU rV ℝ, l'.xs.length = sts.length →
        logPost M sts l' ≤ logPost M sts m ∧ (logPost M sts l' = logPost M sts m → l' = m) := by
  obtain ⟨m, hm, h⟩ := joint_mode M sts hn hs
  exact ⟨m, hm, fun l' hl' => ⟨(h l' hl').1, (h l' hl').2.1⟩⟩
#print axioms C07_mode_exists_unique

/-- **a fixed point of the enrolment iteration is the joint mode**: if one more iteration returns
the same latent state, no state has a higher joint log-posterior and any state with the same value
is that state.  So enrolment cannot stall anywhere but at the mode. -/
theorem C07_fixed_point_is_mode (M : Model C D rU rV ℝ) (sts : List (St C D ℝ)) (l : Lat C D rU rV ℝ)
    (hfix : sweep M sts l = l)
    (hn : ∀ st ∈ sts, ∀ c, 0 ≤ st.n c) (hs : ∀ c d, 0 < M.s c d)
    (l' : Lat C D rU rV ℝ) (hlen' : l'.xs.length = sts.length) :
    logPost M sts l' ≤ logPost M sts l ∧ (logPost M sts l' = logPost M sts l → l' = l) := by
  obtain ⟨y, xs, z⟩ := l
  obtain ⟨H, S, X, rfl, rfl⟩ :=
    exists_ofFn₂ sts xs ((congrArg (fun l => l.xs.length) hfix).symm.trans (List.length_map ..))
  -- the stages of the sweep return `y`, `X`, `z`, so every block of the gradient vanishes there
  simp only [sweep, List.map_ofFn, Lat.mk.injEq, List.ofFn_inj] at hfix
  obtain ⟨hy, hx, hz⟩ := hfix
  rw [hy] at hx hz
  rw [show (List.ofFn ((fun st => latentX M st y z) ∘ S)) = List.ofFn X from congrArg _ hx] at hz
  have h0 : jGrad M S (flat y X z) = 0 := by
    funext j
    rcases j with a | hu | cd
    · exact hy ▸ jGrad_updateY M S X z a (nAcc_nonneg _ hn) hs
    · exact jGrad_latentX M S y X z hu.1 hu.2 (congrFun hx hu.1).symm (nonneg_ofFn hn hu.1) hs
    · exact hz ▸ jGrad_updateZ M S y X cd.1 cd.2 (nAcc_nonneg _ hn _) (hs _ _)
  have := mode_of_jGrad_zero M S y X z (nonneg_ofFn hn) hs h0 l' (hlen'.trans (List.length_ofFn ..))
  exact ⟨this.1, this.2.1⟩
#print axioms C07_fixed_point_is_mode

/-- conversely the mode is a fixed point of the iteration (an iteration never decreases `logPost`
and the mode is the only state with the maximal value) -/
theorem C07_mode_is_fixed_point (M : Model C D rU rV ℝ) (sts : List (St C D ℝ)) (m : Lat C D rU rV ℝ)
    (hlen : m.xs.length = sts.length)
    (hn : ∀ st ∈ sts, ∀ c, 0 ≤ st.n c) (hs : ∀ c d, 0 < M.s c d)
    (hmax : ∀ l' : Lat C D rU rV ℝ, l'.xs.length = sts.length →
        logPost M sts l' ≤ logPost M sts m ∧ (logPost M sts l' = logPost M sts m → l' = m)) :
    sweep M sts m = m :=
  have hl : (sweep M sts m).xs.length = sts.length := List.length_map ..
  (hmax _ hl).2 (le_antisymm (hmax _ hl).1 (sweep_ascent M sts m hlen hn hs))

/-- **enrolment climbs to the joint mode, geometrically**: there are the (unique) mode `m` and a rate
`q < 1` (`q = 1 − 1/(6‖P‖_F² + 1)` for the joint precision `P`) such that after `k` iterations the
log-posterior gap to the mode is at most `q^k` times the initial gap and the squared Euclidean
distance of the latent factors `(y, x_1 … x_H, z)` to the mode at most twice that.
ISV (`rV = 0`) and JFA, any number of sessions, fractional counts. -/
theorem C07_enroll_converges_to_mode (M : Model C D rU rV ℝ) (sts : List (St C D ℝ))
    (hn : ∀ st ∈ sts, ∀ c, 0 ≤ st.n c) (hs : ∀ c d, 0 < M.s c d) :
    ∃ m : Lat C D rU rV ℝ, m.xs.length = sts.length ∧
      (∀ l' : Lat C D rU rV ℝ, l'.xs.length = sts.length →
        logPost M sts l' ≤ logPost M sts m ∧ (logPost M sts l' = logPost M sts m → l' = m)) ∧
      ∃ q : ℝ, 0 ≤ q ∧ q < 1 ∧ ∀ k,
        logPost M sts m - logPost M sts (enroll M sts k) ≤ q ^ k * (logPost M sts m - logPost M sts (enroll M sts 0)) ∧
        latDist2 (enroll M sts k) m ≤ 2 * (q ^ k * (logPost M sts m - logPost M sts (enroll M sts 0))) := by
  obtain ⟨m, hmlen, hm⟩ := joint_mode M sts hn hs
  obtain ⟨q, hq0, hq1, hq⟩ := sweep_contracts M sts m hmlen hn hs
  refine ⟨m, hmlen, fun l' hl' => ⟨(hm l' hl').1, (hm l' hl').2.1⟩, q, hq0, hq1, ?_⟩
  have gap : ∀ k, logPost M sts m - logPost M sts (enroll M sts k)
      ≤ q ^ k * (logPost M sts m - logPost M sts (enroll M sts 0)) :=
    fun k => le_geom (u := fun k => logPost M sts m - logPost M sts (enroll M sts k)) hq0 k
      fun j _ => hq _ (enroll_xs_length M sts j)
  exact fun k => ⟨gap k,
    (hm _ (enroll_xs_length M sts k)).2.2.trans (mul_le_mul_of_nonneg_left (gap k) zero_le_two)⟩
#print axioms C07_enroll_converges_to_mode

/-- in the limit the latent factors and the log-posterior tend to the mode and its value -/
theorem C07_enroll_tendsto_mode (M : Model C D rU rV ℝ) (sts : List (St C D ℝ))
    (hn : ∀ st ∈ sts, ∀ c, 0 ≤ st.n c) (hs : ∀ c d, 0 < M.s c d) :
    ∃ m : Lat C D rU rV ℝ, m.xs.length = sts.length ∧
      (∀ l' : Lat C D rU rV ℝ, l'.xs.length = sts.length → logPost M sts l' ≤ logPost M sts m) ∧
      Filter.Tendsto (fun k => latDist2 (enroll M sts k) m) Filter.atTop (nhds 0) ∧
      Filter.Tendsto (fun k => logPost M sts (enroll M sts k)) Filter.atTop (nhds (logPost M sts m)) := by
  obtain ⟨m, hmlen, hm, q, hq0, hq1, hk⟩ := C07_enroll_converges_to_mode M sts hn hs
  have hpow := (tendsto_pow_atTop_nhds_zero_of_lt_one hq0 hq1).mul_const (logPost M sts m - logPost M sts (enroll M sts 0))
  rw [zero_mul] at hpow
  refine ⟨m, hmlen, fun l' hl' => (hm l' hl').1, ?_, ?_⟩
  · have h2 := hpow.const_mul 2
    rw [mul_zero] at h2
    exact squeeze_zero (fun k => latDist2_nonneg _ _) (fun k => (hk k).2) h2
  · have hgap := squeeze_zero (fun k => sub_nonneg.mpr (hm _ (enroll_xs_length M sts k)).1) (fun k => (hk k).1) hpow
    simpa only [sub_sub_cancel, sub_zero] using (tendsto_const_nhds (x := logPost M sts m)).sub hgap
#print axioms C07_enroll_tendsto_mode

/-- **the joint log-posterior along the iterations converges**, from below, to a value not above the mode's -/
theorem C07_posterior_converges (M : Model C D rU rV ℝ) (sts : List (St C D ℝ))
    (hn : ∀ st ∈ sts, ∀ c, 0 ≤ st.n c) (hs : ∀ c d, 0 < M.s c d) :
    ∃ L : ℝ, Filter.Tendsto (fun k => logPost M sts (enroll M sts k)) Filter.atTop (nhds L)
      ∧ ∀ k, logPost M sts (enroll M sts k) ≤ L := by
  obtain ⟨m, _, hmax, _, ht⟩ := C07_enroll_tendsto_mode M sts hn hs
  exact ⟨_, ht, fun k => hmax _ (enroll_xs_length M sts k)⟩
#print axioms C07_posterior_converges

/-- the executed (materialised) enrolment computes the specification's iterates -/
theorem C07_exec_eq_spec (M : Model C D rU rV ℝ) (sts : List (St C D ℝ)) (k : ℕ) :
    (enrollV M sts k).ofV = enroll M sts k :=
  enroll_exec_eq_spec M sts k

/-- non-vacuity: one component, one feature, JFA ranks one, two sessions with positive counts -/
example : ∃ (M : Model 1 1 1 1 ℝ) (sts : List (St 1 1 ℝ)), (∀ st ∈ sts, ∀ c, 0 ≤ st.n c) ∧ (∀ c d, 0 < M.s c d) ∧ sts.length = 2 :=
  ⟨⟨fun _ _ => 0, fun _ _ => 1, fun _ _ _ => 1, fun _ _ _ => 1, fun _ _ => 1⟩, [⟨fun _ => 2, fun _ _ => 1, 2⟩, ⟨fun _ => 1, fun _ _ => -1, 1⟩],
    by intro st h c; simp at h; rcases h with rfl | rfl <;> norm_num, by intro c d; norm_num, rfl⟩
