import BobEM.Model.Linear
import BobEM.Lemmas.RealLinAlg

/-!
# C14 — WCCN/whitening map covariance to identity; WCCN depends only on the partition

Model: `BobEM.Lin.whitenFit / wccnFit / project` (`whitening.py`, `wccn.py`).  The Cholesky routine
is a parameter; the theorems assume exactly its contract on the matrix it is given
(`L * Lᵀ = A`), and `LinAlg.inv` is Mathlib's inverse.
-/

open Matrix BobEM.Lin

variable {N D : ℕ}

/-- the algebraic core: if `W Wᵀ = S⁻¹` and `S` is invertible then `Wᵀ S W = 1` -/
theorem whiten_core (S W : Matrix (Fin D) (Fin D) ℝ) (hS : IsUnit S.det) (hW : W * Wᵀ = S⁻¹) :
    Wᵀ * S * W = 1 := by
  rw [mul_eq_one_comm, ← Matrix.mul_assoc, hW, Matrix.nonsing_inv_mul _ hS]

/-! Both scatters are Gram matrices of deviations from a mean, and taking deviations commutes with
the projection: the projected scatter is the congruence transform `Wᵀ S W`. -/

theorem gram_mul (Z : Matrix (Fin N) (Fin D) ℝ) (W : Matrix (Fin D) (Fin D) ℝ) :
    (Z * W)ᵀ * (Z * W) = Wᵀ * (Zᵀ * Z) * W := by
  rw [Matrix.transpose_mul]
  simp only [Matrix.mul_assoc]

noncomputable def centred (X : Fin N → Fin D → ℝ) : Matrix (Fin N) (Fin D) ℝ := of fun n d => X n d - colMean X d

theorem colMean_eq (X : Fin N → Fin D → ℝ) (d : Fin D) : colMean X d = (∑ n, X n d) / (N : ℝ) := by
  rw [colMean, sumFin_eq]; rfl

theorem cov_eq (X : Fin N → Fin D → ℝ) :
    (of (covMat X) : Matrix (Fin D) (Fin D) ℝ) = (1 / ((N : ℝ) - 1)) • ((centred X)ᵀ * centred X) := by
  ext a b
  rw [Matrix.smul_apply, Matrix.mul_apply, smul_eq_mul, one_div, ← div_eq_inv_mul, of_apply, covMat, sumFin_eq]
  rfl

theorem project_eq (p : Proj D ℝ) (X : Fin N → Fin D → ℝ) :
    (of fun n b => project p (X n) b : Matrix (Fin N) (Fin D) ℝ)
      = (of fun n a => X n a - p.subtract a : Matrix (Fin N) (Fin D) ℝ) * (of p.weights : Matrix (Fin D) (Fin D) ℝ) := by
  ext n b
  simp only [project, sumFin_eq, mul_apply, of_apply]

theorem colMean_project (p : Proj D ℝ) (X : Fin N → Fin D → ℝ) (hN : N ≠ 0) (b : Fin D) :
    colMean (fun n => project p (X n)) b = ∑ a, (colMean X a - p.subtract a) * p.weights a b := by
  simp only [colMean_eq, project, sumFin_eq]
  rw [Finset.sum_comm, Finset.sum_div]
  refine Finset.sum_congr rfl fun a _ => ?_
  rw [← Finset.sum_mul, Finset.sum_sub_distrib, Finset.sum_const, Finset.card_univ, Fintype.card_fin, nsmul_eq_mul,
    mul_div_right_comm, sub_div, mul_div_cancel_left₀ _ (Nat.cast_ne_zero.mpr hN)]

theorem centred_project (p : Proj D ℝ) (X : Fin N → Fin D → ℝ) (hN : N ≠ 0) :
    centred (fun n => project p (X n)) = centred X * of p.weights := by
  ext n b
  simp only [centred, of_apply, mul_apply, colMean_project p X hN, project, sumFin_eq, ← Finset.sum_sub_distrib]
  exact Finset.sum_congr rfl fun a _ => by ring

theorem cov_project (p : Proj D ℝ) (X : Fin N → Fin D → ℝ) (hN : N ≠ 0) :
    (of (covMat fun n => project p (X n)) : Matrix (Fin D) (Fin D) ℝ)
      = (of p.weights)ᵀ * of (covMat X) * of p.weights := by
  rw [cov_eq, cov_eq, centred_project p X hN, gram_mul, Matrix.mul_smul, Matrix.smul_mul]

/-- **Whitening**: after fitting on full-rank data the transformed training data have zero mean and
identity sample covariance -/
theorem C14_whitening_identity (chol : (n : ℕ) → (Fin n → Fin n → ℝ) → Fin n → Fin n → ℝ)
    (X : Fin N → Fin D → ℝ) (hN : N ≠ 0)
    (hfull : IsUnit (of (covMat X) : Matrix (Fin D) (Fin D) ℝ).det)
    (hchol : (of (chol D (LinAlg.inv D (covMat X))) : Matrix (Fin D) (Fin D) ℝ)
        * (of (chol D (LinAlg.inv D (covMat X))) : Matrix (Fin D) (Fin D) ℝ)ᵀ = of (LinAlg.inv D (covMat X))) :
    let Y := fun n => project (whitenFit chol X) (X n)
    (∀ d, colMean Y d = 0) ∧ (of (covMat Y) : Matrix (Fin D) (Fin D) ℝ) = 1 := by
  refine ⟨fun d => ?_, ?_⟩
  · rw [colMean_project _ X hN]
    exact Finset.sum_eq_zero fun a _ => by rw [whitenFit, sub_self, zero_mul]
  · rw [cov_project _ X hN]
    exact whiten_core _ _ hfull hchol

noncomputable def classDev (X : Fin N → Fin D → ℝ) (y : Fin N → ℤ) (l : ℤ) : Matrix (Fin N) (Fin D) ℝ :=
  of fun n a => if y n = l then X n a - classMean X y l a else 0

theorem classScatter_eq (X : Fin N → Fin D → ℝ) (y : Fin N → ℤ) (l : ℤ) :
    (of (classScatter X y l) : Matrix (Fin D) (Fin D) ℝ) = (classDev X y l)ᵀ * classDev X y l := by
  ext a b
  rw [Matrix.mul_apply, of_apply, classScatter, sumFin_eq]
  exact Finset.sum_congr rfl fun n _ => by
    simp only [classDev, transpose_apply, of_apply, ite_zero_mul_ite_zero, and_self]

theorem classMean_project (W : Fin D → Fin D → ℝ) (X : Fin N → Fin D → ℝ) (y : Fin N → ℤ) (l : ℤ) (b : Fin D) :
    classMean (fun n => project ⟨W, fun _ => 0⟩ (X n)) y l b = ∑ a, classMean X y l a * W a b := by
  simp only [classMean, project, sumFin_eq, sub_zero, div_mul_eq_mul_div, ← Finset.sum_div, Finset.sum_mul,
    ite_mul, zero_mul]
  rw [Finset.sum_comm]
  exact congrArg (· / _) (Finset.sum_congr rfl fun n _ => by rw [Finset.sum_ite_irrel, Finset.sum_const_zero])

theorem classDev_project (W : Fin D → Fin D → ℝ) (X : Fin N → Fin D → ℝ) (y : Fin N → ℤ) (l : ℤ) :
    classDev (fun n => project ⟨W, fun _ => 0⟩ (X n)) y l = classDev X y l * of W := by
  ext n b
  simp only [classDev, of_apply, mul_apply, classMean_project, project, sumFin_eq, sub_zero, ite_mul, zero_mul,
    Finset.sum_ite_irrel, Finset.sum_const_zero, ← Finset.sum_sub_distrib, sub_mul]

theorem withinScatter_nil (X : Fin N → Fin D → ℝ) (y : Fin N → ℤ) :
    (of (withinScatter X y []) : Matrix (Fin D) (Fin D) ℝ) = 0 := by
  ext a b; simp only [withinScatter, lsum_eq, List.map_nil, List.sum_nil, of_apply, Matrix.zero_apply]

theorem withinScatter_cons (X : Fin N → Fin D → ℝ) (y : Fin N → ℤ) (l : ℤ) (ls : List ℤ) :
    (of (withinScatter X y (l :: ls)) : Matrix (Fin D) (Fin D) ℝ) = of (classScatter X y l) + of (withinScatter X y ls) := by
  ext a b; simp only [withinScatter, lsum_eq, List.map_cons, List.sum_cons, of_apply, Matrix.add_apply]

theorem scaledScatter_eq (X : Fin N → Fin D → ℝ) (y : Fin N → ℤ) (classes : List ℤ) :
    (of (scaledScatter X y classes) : Matrix (Fin D) (Fin D) ℝ)
      = (1 / (classes.length : ℝ)) • of (withinScatter X y classes) := rfl

theorem withinScatter_project (W : Fin D → Fin D → ℝ) (X : Fin N → Fin D → ℝ) (y : Fin N → ℤ) (classes : List ℤ) :
    (of (withinScatter (fun n => project ⟨W, fun _ => 0⟩ (X n)) y classes) : Matrix (Fin D) (Fin D) ℝ)
      = (of W)ᵀ * of (withinScatter X y classes) * of W := by
  induction classes with
  | nil => rw [withinScatter_nil, withinScatter_nil, Matrix.mul_zero, Matrix.zero_mul]
  | cons l ls ih =>
    rw [withinScatter_cons, withinScatter_cons, ih, classScatter_eq, classScatter_eq, classDev_project, gram_mul,
      Matrix.mul_add, Matrix.add_mul]

/-- **WCCN**: the within-class scatter of the transformed training data divided by the number of
classes is the identity -/
theorem C14_wccn_identity (chol : (n : ℕ) → (Fin n → Fin n → ℝ) → Fin n → Fin n → ℝ)
    (X : Fin N → Fin D → ℝ) (y : Fin N → ℤ) (classes : List ℤ)
    (hfull : IsUnit (of (scaledScatter X y classes) : Matrix (Fin D) (Fin D) ℝ).det)
    (hchol : (of (chol D (LinAlg.inv D (scaledScatter X y classes))) : Matrix (Fin D) (Fin D) ℝ)
        * (of (chol D (LinAlg.inv D (scaledScatter X y classes))) : Matrix (Fin D) (Fin D) ℝ)ᵀ
          = of (LinAlg.inv D (scaledScatter X y classes))) :
    (of (scaledScatter (fun n => project (wccnFit chol X y classes) (X n)) y classes) : Matrix (Fin D) (Fin D) ℝ) = 1 := by
  rw [scaledScatter_eq, wccnFit, withinScatter_project, ← Matrix.smul_mul, ← Matrix.mul_smul, ← scaledScatter_eq]
  exact whiten_core _ _ hfull hchol

/-- the projection inherits "lower-triangular with positive diagonal" from the Cholesky contract -/
theorem C14_lower_pos_diag (chol : (n : ℕ) → (Fin n → Fin n → ℝ) → Fin n → Fin n → ℝ)
    (X : Fin N → Fin D → ℝ) (y : Fin N → ℤ) (classes : List ℤ)
    (hlow : ∀ A : Fin D → Fin D → ℝ, (∀ i j, i < j → chol D A i j = 0) ∧ ∀ i, 0 < chol D A i i) :
    (∀ i j, i < j → (wccnFit chol X y classes).weights i j = 0) ∧ (∀ i, 0 < (wccnFit chol X y classes).weights i i) ∧
    (∀ i j, i < j → (whitenFit chol X).weights i j = 0) ∧ (∀ i, 0 < (whitenFit chol X).weights i i) :=
  ⟨(hlow _).1, (hlow _).2, (hlow _).1, (hlow _).2⟩

/-- the scaled within-class scatter sees the labelled samples as a set of (row, class) pairs: rows in any order,
classes under any injective renaming and in any enumeration order -/
theorem scaledScatter_reindex (X : Fin N → Fin D → ℝ) (y : Fin N → ℤ) (σ : Equiv.Perm (Fin N)) (f : ℤ → ℤ)
    (hf : Function.Injective f) {classes classes' : List ℤ} (hperm : classes'.Perm (classes.map f)) :
    scaledScatter (fun n => X (σ n)) (fun n => f (y (σ n))) classes' = scaledScatter X y classes := by
  have hcount : ∀ l, classCount (fun n => f (y (σ n))) (f l) = classCount y l := fun l => by
    have h1 := σ.map_finRange_perm.countP_eq (fun n => decide (y n = l))
    rw [List.countP_map] at h1
    simpa [classCount, Function.comp_def, hf.eq_iff] using h1
  have hmean : ∀ l, classMean (fun n => X (σ n)) (fun n => f (y (σ n))) (f l) = classMean X y l := fun l => by
    funext d
    simp only [classMean, hcount, hf.eq_iff]
    exact congrArg (· / _) (sumFin_comp_equiv σ fun n => if y n = l then X n d else 0)
  have hsc : ∀ l, classScatter (fun n => X (σ n)) (fun n => f (y (σ n))) (f l) = classScatter X y l := fun l => by
    funext a b
    simp only [classScatter, hmean, hf.eq_iff]
    exact sumFin_comp_equiv σ fun n => if y n = l then (X n a - classMean X y l a) * (X n b - classMean X y l b) else 0
  funext a b
  simp only [scaledScatter, withinScatter, lsum_eq]
  rw [hperm.length_eq, (hperm.map _).sum_eq]
  simp [List.map_map, Function.comp_def, hsc]

/-- **Label invariance**: the WCCN projection depends only on which samples share a class — any
injective renaming of the labels and any enumeration order of the label set give the same fit -/
theorem C14_wccn_label_invariance (chol : (n : ℕ) → (Fin n → Fin n → ℝ) → Fin n → Fin n → ℝ)
    (X : Fin N → Fin D → ℝ) (y : Fin N → ℤ) (classes classes' : List ℤ) (f : ℤ → ℤ) (hf : Function.Injective f)
    (hperm : classes'.Perm (classes.map f)) :
    wccnFit chol X (fun n => f (y n)) classes' = wccnFit chol X y classes :=
  congrArg (fun S => (⟨chol D (LinAlg.inv D S), fun _ => 0⟩ : Proj D ℝ)) (scaledScatter_reindex X y (Equiv.refl _) f hf hperm)

/-- the executed (materialised) fits compute the specification's projections -/
theorem C14_exec_eq_spec (chol : (n : ℕ) → (Fin n → Fin n → ℝ) → Fin n → Fin n → ℝ) (X : Fin N → Fin D → ℝ)
    (y : Fin N → ℤ) (classes : List ℤ) :
    (whitenFitV chol X).toProj = whitenFit chol X ∧ (wccnFitV chol X y classes).toProj = wccnFit chol X y classes := by
  -- `↓`: strip the outer `(Vector.ofFn f)[i]` first; rewriting inside the vector argument of a
  -- `getElem` makes `simp` compare `Array.ofFn` terms by unfolding them
  constructor <;>
    simp only [whitenFitV, wccnFitV, ProjV.toProj, ↓ Fin.getElem_fin, ↓ Vector.getElem_ofFn] <;> rfl
