import BobEM.Model.Hdf5
import Mathlib.Data.Real.Basic
import Mathlib.Tactic

/-!
# C18 — Saving and loading a GMM or its statistics preserves them exactly

Model: `BobEM.H5.save / fromFile / load`, `saveStats / statsFromFile / loadStats`, `legacyEncode /
fromLegacy` (`gmm.py: GMMMachine.save, from_hdf5, load; GMMStats.save, from_hdf5, load`).
Values are copied, never recomputed, so "bit-identical" is equality in the model; that the real
HDF5 layer returns the bytes it was given is checked by the correspondence.
-/

open BobEM.H5

variable {C D : ℕ}

/-- a reachable machine: a known trainer, a MAP machine holds its UBM, variances respect the floors -/
structure WellFormed (m : Machine C D ℝ) : Prop where
  trainer : m.trainer = "ml" ∨ m.trainer = "map"
  ubm : m.trainer = "map" → m.ubm.isSome
  floors : ∀ c d, m.thresholds.bc c d ≤ m.variances c d

/-- reading back applies the constructor's two normalisations and nothing else: unknown trainer ↦
`"ml"`, variances clamped to the stored floors -/
theorem fromFile_save {α : Type} [Max α] (m : Machine C D α) (ubm : Option ℕ) :
    fromFile (save m) ubm = if m.trainer == "map" && ubm.isNone then .error .needsUbm else
      .ok { m with trainer := if m.trainer == "ml" || m.trainer == "map" then m.trainer else "ml",
                   variances := fun c d => max (m.thresholds.bc c d) (m.variances c d), ubm := ubm } := by
  obtain ⟨tr, cv, ms, w, mu, v, th, um, uv, uw, ub⟩ := m
  -- with the two optional settings decided the file is a literal list: every lookup is evaluated by
  -- comparing key strings (`String.reduceBEq`)
  cases cv <;> cases ms <;>
    simp only [save, fromFile, getBytes, getBool, getVec, getMat, getThr, getOptFloat, getOptInt, File.get?,
      List.find?, List.cons_append, List.nil_append, String.reduceBEq, Option.map_some, Option.map_none]

/-- **Round trip**: reading back what was written gives the same machine — weights, means,
variances, floors, trainer kind, iteration limit and threshold (including "not set"), the three
update switches — when the machine's own UBM is offered. -/
theorem C18_machine_roundtrip (m : Machine C D ℝ) (h : WellFormed m) :
    fromFile (save m) m.ubm = .ok m := by
  have hu : (m.trainer == "map" && m.ubm.isNone) = false := by
    cases hm : m.ubm
    · simpa [hm] using h.ubm
    · exact Bool.and_false _
  have ht : (m.trainer == "ml" || m.trainer == "map") = true := by simpa using h.trainer
  have hv : (fun c d => max (m.thresholds.bc c d) (m.variances c d)) = m.variances :=
    funext fun c => funext fun d => max_eq_right (h.floors c d)
  rw [fromFile_save, hu, ht, hv]; rfl

/-- a MAP machine cannot be read without offering a UBM -/
theorem C18_map_needs_ubm (m : Machine C D ℝ) (h : m.trainer = "map") :
    fromFile (save m) none = .error .needsUbm := by
  rw [fromFile_save, h]; rfl

/-- saving the machine that was read back writes the same file -/
theorem C18_resave (m : Machine C D ℝ) (h : WellFormed m) (m' : Machine C D ℝ)
    (hl : fromFile (save m) m.ubm = .ok m') : save m' = save m := by
  rw [C18_machine_roundtrip m h] at hl
  cases hl; rfl

/-- any number of save/load round trips -/
theorem C18_many_roundtrips (m : Machine C D ℝ) (h : WellFormed m) (n : ℕ) :
    Nat.iterate (fun r : Except Err (Machine C D ℝ) => r.bind fun x => fromFile (save x) x.ubm) n (Except.ok m)
      = Except.ok m :=
  Function.iterate_fixed (C18_machine_roundtrip m h) n

/-- `load` replaces every attribute of the receiver, whatever its shape; it offers its own UBM -/
theorem C18_load_replaces_state {C' D' : ℕ} (self : Machine C' D' ℝ) (m : Machine C D ℝ) (h : WellFormed m)
    (hu : self.ubm = m.ubm) : load self (save m) = .ok m := by
  unfold load; rw [hu]; exact C18_machine_roundtrip m h

theorem C18_stats_roundtrip (s : StatsRec C D ℝ) : statsFromFile (saveStats s) = .ok s := by
  simp only [saveStats, statsFromFile, getVec, getMat, File.get?, List.find?, String.reduceBEq, Option.map_some]

/-- loading statistics into a container of another shape resizes and overwrites it -/
theorem C18_stats_load_resizes {C' D' : ℕ} (self : StatsRec C' D' ℝ) (s : StatsRec C D ℝ) :
    loadStats self (saveStats s) = .ok s := C18_stats_roundtrip s

/-- the legacy reader yields the same Gaussians as the current reader on the current encoding -/
theorem C18_legacy_equiv (m : Machine C D ℝ) (h : WellFormed m) (ubm : Option ℕ) (thr : ℝ) (steps : ℕ) :
    let l := fromLegacy (legacyEncode m) ubm thr steps
    l.weights = m.weights ∧ l.means = m.means ∧ l.variances = m.variances ∧ l.thresholds.bc = m.thresholds.bc :=
  ⟨rfl, rfl, funext fun c => funext fun d => max_eq_right (h.floors c d), rfl⟩

/-- non-vacuity: a MAP machine with "no limit" settings is well formed and round-trips -/
example : fromFile (save (⟨"map", none, none, fun _ => 1, fun _ _ => 0, fun _ _ => 1, .scalar (1/2), true, true, false, some 7⟩ :
    Machine 1 1 ℝ)) (some 7) = .ok ⟨"map", none, none, fun _ => 1, fun _ _ => 0, fun _ _ => 1, .scalar (1/2), true, true, false, some 7⟩ :=
  C18_machine_roundtrip _ ⟨Or.inr rfl, fun _ => rfl, fun _ _ => by simp [Thr.bc]; norm_num⟩
