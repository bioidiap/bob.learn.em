import BobEM.Model.LinearScoring
import BobEM.Lemmas.GmmEM
import BobEM.Lemmas.Deriv

/-!
# C08 — Linear scoring is the exact first-order log-likelihood ratio around the UBM

Model: `BobEM.linearScore`, `BobEM.linearScoring` with the argument normalisation of
`linear_scoring.py` (machines vs arrays, 2-D vs 3-D means, MAP machine ↦ its prior, single statistic
↦ list, scalar / shared / per-test offsets, the `|t| ≤ ε` guard).
-/

open BobEM

variable {C D : ℕ}

/-- the score is one bilinear form in (model − UBM, F − N (μ + o)); frame normalisation only multiplies
it by `1 / t`, or by `0` below the `ε` guard -/
theorem linearScore_eq (um uv model : Fin C → Fin D → ℝ) (st : LStat C D ℝ) (off : Fin C → Fin D → ℝ)
    (norm : Bool) (eps : ℝ) :
    linearScore um uv model st off norm eps
      = (if norm then (if |st.t| ≤ eps then 0 else 1 / st.t) else 1)
        * ∑ c, ∑ d, (model c d - um c d) / uv c d * (st.sumPx c d - st.n c * (um c d + off c d)) := by
  simp only [linearScore, sumFin_eq, absv_eq, Finset.mul_sum]
  refine Finset.sum_congr rfl fun c _ => Finset.sum_congr rfl fun d _ => ?_
  split_ifs <;> ring

/-- the closed formula of one entry -/
theorem C08_formula (um uv model : Fin C → Fin D → ℝ) (st : LStat C D ℝ) (off : Fin C → Fin D → ℝ) (eps : ℝ) :
    linearScore um uv model st off false eps
        = ∑ c, ∑ d, (model c d - um c d) / uv c d * (st.sumPx c d - st.n c * (um c d + off c d)) ∧
    (eps < |st.t| → linearScore um uv model st off true eps
        = (∑ c, ∑ d, (model c d - um c d) / uv c d * (st.sumPx c d - st.n c * (um c d + off c d))) / st.t) ∧
    (|st.t| ≤ eps → linearScore um uv model st off true eps = 0) := by
  simp only [linearScore_eq, Bool.false_eq_true, if_false, if_true, one_mul, true_and]
  exact ⟨fun h => by rw [if_neg (not_le.mpr h), one_div, inv_mul_eq_div], fun h => by rw [if_pos h, zero_mul]⟩

/-- zero for the UBM itself -/
theorem C08_zero_for_ubm (um uv : Fin C → Fin D → ℝ) (st : LStat C D ℝ) (off : Fin C → Fin D → ℝ) (norm : Bool) (eps : ℝ) :
    linearScore um uv um st off norm eps = 0 := by
  simp only [linearScore_eq, sub_self, zero_div, zero_mul, Finset.sum_const_zero, mul_zero]

/-- linear in the model offset -/
theorem C08_linear_in_offset (um uv δ₁ δ₂ : Fin C → Fin D → ℝ) (a b : ℝ) (st : LStat C D ℝ)
    (off : Fin C → Fin D → ℝ) (norm : Bool) (eps : ℝ) :
    linearScore um uv (fun c d => um c d + (a * δ₁ c d + b * δ₂ c d)) st off norm eps
      = a * linearScore um uv (fun c d => um c d + δ₁ c d) st off norm eps
        + b * linearScore um uv (fun c d => um c d + δ₂ c d) st off norm eps := by
  simp only [linearScore_eq, Finset.mul_sum, ← Finset.sum_add_distrib]
  refine Finset.sum_congr rfl fun c _ => Finset.sum_congr rfl fun d _ => ?_
  ring

/-- additive over test statistics (un-normalised, same offset) -/
theorem C08_additive_in_stats (um uv model : Fin C → Fin D → ℝ) (s₁ s₂ : LStat C D ℝ)
    (off : Fin C → Fin D → ℝ) (eps : ℝ) :
    linearScore um uv model ⟨fun c => s₁.n c + s₂.n c, fun c d => s₁.sumPx c d + s₂.sumPx c d, s₁.t + s₂.t⟩ off false eps
      = linearScore um uv model s₁ off false eps + linearScore um uv model s₂ off false eps := by
  simp only [linearScore_eq, Bool.false_eq_true, if_false, one_mul, ← Finset.sum_add_distrib]
  refine Finset.sum_congr rfl fun c _ => Finset.sum_congr rfl fun d _ => ?_
  ring

/-- shape: one row per model, one column per test statistic -/
theorem C08_shape (models : ModelsArg C D ℝ) (ubm : UbmArg C D ℝ) (tests : StatsArg C D ℝ) (offs : OffArg C D ℝ)
    (norm : Bool) (eps : ℝ) :
    (linearScoring models ubm tests offs norm eps).length = models.means.length ∧
    ∀ row ∈ linearScoring models ubm tests offs norm eps, row.length = tests.list.length := by
  refine ⟨by simp [linearScoring], fun row h => ?_⟩
  simp only [linearScoring, List.mem_map] at h
  obtain ⟨m, _, rfl⟩ := h
  simp

/-- machines and their mean arrays are interchangeable; a 2-D array is a single model -/
theorem C08_machine_eq_array (l : List (Params C D ℝ)) (ubm : UbmArg C D ℝ) (tests : StatsArg C D ℝ)
    (offs : OffArg C D ℝ) (norm : Bool) (eps : ℝ) :
    linearScoring (.machines l) ubm tests offs norm eps = linearScoring (.array3 (l.map (·.means))) ubm tests offs norm eps ∧
    ∀ m, linearScoring (.array2 m) ubm tests offs norm eps = linearScoring (.array3 [m]) ubm tests offs norm eps :=
  ⟨rfl, fun _ => rfl⟩

/-- a MAP machine passed as UBM stands for its prior; a single statistic is a one-element list -/
theorem C08_map_machine_eq_prior (models : ModelsArg C D ℝ) (adapted prior : Params C D ℝ) (tests : StatsArg C D ℝ)
    (offs : OffArg C D ℝ) (norm : Bool) (eps : ℝ) :
    linearScoring models (.map adapted prior) tests offs norm eps = linearScoring models (.ml prior) tests offs norm eps ∧
    ∀ s, linearScoring models (.ml prior) (.one s) offs norm eps = linearScoring models (.ml prior) (.many [s]) offs norm eps :=
  ⟨rfl, fun _ => rfl⟩

/-- the UBM with its means moved towards the model by `ε` -/
noncomputable def moved (p : Params C D ℝ) (model : Fin C → Fin D → ℝ) (ε : ℝ) : Params C D ℝ :=
  { p with means := fun c d => p.means c d + ε * (model c d - p.means c d) }

theorem hasDerivAt_lwl_moved (p : Params C D ℝ) (model : Fin C → Fin D → ℝ) (x : Fin D → ℝ) (c : Fin C) :
    HasDerivAt (fun ε => lwl (moved p model ε) x c)
      (∑ d, (model c d - p.means c d) * (x d - p.means c d) / p.variances c d) 0 := by
  -- `lwl` is a constant plus the sum over `d` of the one-feature exponents of `hasDerivAt_component`
  have hs := (HasDerivAt.fun_sum (u := Finset.univ) fun d _ =>
    hasDerivAt_component 0 0 (x d) (p.means c d) (model c d - p.means c d) (p.variances c d)).const_add
      (Real.log (p.weights c) + -(1/2 : ℝ) * gNorm p c)
  refine hs.congr_of_eventuallyEq (Filter.Eventually.of_forall fun ε => ?_)
  simp only [lwl, moved, gNorm, sumFin_eq, Transc.log, zero_add, ← Finset.mul_sum]
  ring

theorem hasDerivAt_logLik_moved (p : Params (C+1) D ℝ) (model : Fin (C+1) → Fin D → ℝ) (x : Fin D → ℝ) :
    HasDerivAt (fun ε => logLik (moved p model ε) x)
      (∑ c, resp p x c * ∑ d, (model c d - p.means c d) * (x d - p.means c d) / p.variances c d) 0 := by
  have h := hasDerivAt_lse (fun c ε => lwl (moved p model ε) x c) _ 0 (fun c => hasDerivAt_lwl_moved p model x c)
  simp only [logLik_eq]
  refine h.congr_deriv (Finset.sum_congr rfl fun c _ => ?_)
  rw [show moved p model 0 = p by simp [moved], resp, Real.exp_sub, logLik_eq, Real.exp_log (sum_exp_pos _)]

/-- **The linear score is the derivative at zero** of the data's UBM log-likelihood as the UBM
means are moved towards the model, where `F`, `N` are the UBM statistics of the data. -/
theorem C08_is_derivative (p : Params (C+1) D ℝ) (model : Fin (C+1) → Fin D → ℝ) (xs : List (Fin D → ℝ)) (eps : ℝ) :
    HasDerivAt (fun ε => lsum (xs.map (logLik (moved p model ε))))
      (linearScore p.means p.variances model
        ⟨(eStep p xs).n, (eStep p xs).sumPx, (xs.length : ℝ)⟩ (fun _ _ => 0) false eps) 0 := by
  rw [funext fun ε => lsum_map_eq_sum xs (logLik (moved p model ε))]
  have h := HasDerivAt.fun_sum (u := Finset.univ) fun (i : Fin xs.length) _ => hasDerivAt_logLik_moved p model xs[i.1]
  refine h.congr_deriv ?_
  -- regroup `Σ_i Σ_c r_ic Σ_d …` by component and feature: the statistics `N`, `F` appear
  rw [linearScore_eq, if_neg Bool.false_ne_true, one_mul, eStep_eq_stOf, Finset.sum_comm]
  refine Finset.sum_congr rfl fun c _ => ?_
  simp only [Finset.mul_sum]
  rw [Finset.sum_comm]
  refine Finset.sum_congr rfl fun d _ => ?_
  simp only [stOf]
  rw [Fst, Nst, Finset.sum_mul, ← Finset.sum_sub_distrib, Finset.mul_sum]
  exact Finset.sum_congr rfl fun i _ => by ring

/-- **a Gaussian the test statistics never visited does not enter the score**: if `N_c = 0` and `F_c = 0`
for a component, the score does not depend on the model mean or on the channel offset of that
component — its term is exactly `0`, with or without frame normalisation (no `0/0`: nothing is divided
by a count) -/
theorem C08_unvisited_component_irrelevant (um uv model model' : Fin C → Fin D → ℝ) (st : LStat C D ℝ)
    (off off' : Fin C → Fin D → ℝ) (norm : Bool) (eps : ℝ) (c0 : Fin C)
    (hn : st.n c0 = 0) (hf : ∀ d, st.sumPx c0 d = 0)
    (hm : ∀ c, c ≠ c0 → model' c = model c) (ho : ∀ c, c ≠ c0 → off' c = off c) :
    linearScore um uv model' st off' norm eps = linearScore um uv model st off norm eps := by
  simp only [linearScore_eq]
  congr 1
  refine Finset.sum_congr rfl fun c _ => ?_
  by_cases hc : c = c0
  · subst hc
    simp only [hn, hf, zero_mul, sub_self, mul_zero]
  · rw [hm c hc, ho c hc]

/-- a scalar channel offset is the array filled with that number (the default `0` included): the three
ways of giving offsets denote functions, and equal functions give equal scores -/
theorem C08_scalar_offset_is_constant_array (models : ModelsArg C D ℝ) (ubm : UbmArg C D ℝ) (tests : StatsArg C D ℝ)
    (x : ℝ) (norm : Bool) (eps : ℝ) :
    linearScoring models ubm tests (.scalar x) norm eps = linearScoring models ubm tests (.shared fun _ _ => x) norm eps := by
  simp [linearScoring, OffArg.get]

/-- the score is a sum over the components, hence does not depend on how they are numbered: UBM,
model, statistics and offsets relabelled together give the same score (raw or normalised) -/
theorem C08_component_order_irrelevant (um uv model : Fin C → Fin D → ℝ) (st : LStat C D ℝ)
    (off : Fin C → Fin D → ℝ) (norm : Bool) (eps : ℝ) (σ : Equiv.Perm (Fin C)) :
    linearScore (fun c => um (σ c)) (fun c => uv (σ c)) (fun c => model (σ c))
        { st with n := fun c => st.n (σ c), sumPx := fun c => st.sumPx (σ c) } (fun c => off (σ c)) norm eps
      = linearScore um uv model st off norm eps := by
  -- `linearScore` is one `sumFin C` with the normalisation inside the summand
  refine Eq.trans ?_ (sumFin_comp_equiv σ _)
  rfl
