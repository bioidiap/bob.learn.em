import BobEM.Props.C01
import BobEM.Props.C05
import BobEM.Props.C08
import BobEM.Lemmas.KMeansSim
import BobEM.Lemmas.FATrainIdent
import BobEM.Lemmas.IVectorIdent

/-!
# C15 — Training is equivariant, scoring invariant, under affine feature rescaling/shift

The feature map is `x_d ↦ a_d x_d + b_d` with `a_d ≠ 0`; parameters are transformed accordingly:
means `a μ + b`, variances and floors `a² v`, statistics `F ↦ a F + b N`, `S ↦ a² S + 2ab F + b² N`, total
log-likelihood `ll − K` (`affS … K`; `K = T Σ_d log|a_d|` for `T` samples), subspace rows and offsets `a ·`.
Model: the definitions of C01, C03, C05, C06, C07–C11 and C17, each under the corresponding transformation.
-/

open BobEM Matrix

variable {C D : ℕ}

def affX (a b : Fin D → ℝ) (x : Fin D → ℝ) : Fin D → ℝ := fun d => a d * x d + b d
def affP (a b : Fin D → ℝ) (p : Params C D ℝ) : Params C D ℝ :=
  { weights := p.weights, means := fun c d => a d * p.means c d + b d, variances := fun c d => a d * a d * p.variances c d }
def affS (a b : Fin D → ℝ) (s : Stats C D ℝ) (K : ℝ) : Stats C D ℝ :=
  { n := s.n, sumPx := fun c d => a d * s.sumPx c d + b d * s.n c,
    sumPxx := fun c d => a d * a d * s.sumPxx c d + 2 * a d * b d * s.sumPx c d + b d * b d * s.n c,
    ll := s.ll - K, t := s.t }

noncomputable def logJac (a : Fin D → ℝ) : ℝ := ∑ d, Real.log |a d|

/-! Residuals and loadings scale with the feature, variances with its square, so a whitened pairing `L Σ⁻¹ g` does
not move — for a zero variance too (`x / 0 = 0` on both sides): `hs` (ISV / JFA / i-vector), `hv` (linear score) and
`hfl` (i-vector covariance update) are not used by the proofs.  The GMM M-steps need how normalised moments move
(`aff_m1`, `aff_m2`). -/
section Core
variable {a : Fin D → ℝ} (ha : ∀ d, a d ≠ 0)
include ha

theorem aff_cancel (d : Fin D) (u s v : ℝ) : a d * u / (a d * a d * s) * (a d * v) = u / s * v := by
  rw [mul_assoc, mul_div_mul_left _ _ (ha d), div_mul_eq_mul_div, mul_left_comm, mul_div_mul_left _ _ (ha d), mul_div_right_comm]

theorem aff_cancel' (d : Fin D) (u s v : ℝ) : a d * u * (a d * v) / (a d * a d * s) = u * v / s := by
  rw [mul_mul_mul_comm, mul_div_mul_left _ _ (mul_ne_zero (ha d) (ha d))]
end Core

theorem aff_m1 {N : ℝ} (hN : N ≠ 0) (a b F : ℝ) : (a * F + b * N) / N = a * (F / N) + b := by
  rw [add_div, mul_div_assoc, mul_div_assoc, div_self hN, mul_one]
theorem aff_m2 {N : ℝ} (hN : N ≠ 0) (a b F S : ℝ) :
    (a * a * S + 2 * a * b * F + b * b * N) / N = a * a * (S / N) + 2 * a * b * (F / N) + b * b := by
  rw [add_div, add_div, mul_div_assoc, mul_div_assoc, mul_div_assoc, div_self hN, mul_one]

theorem C15_lwl_shift (a b : Fin D → ℝ) (ha : ∀ d, a d ≠ 0) (p : Params C D ℝ) (hv : ∀ c d, 0 < p.variances c d)
    (x : Fin D → ℝ) (c : Fin C) :
    lwl (affP a b p) (affX a b x) c = lwl p x c - logJac a := by
  have h1 : ∀ d, Real.log (a d * a d * p.variances c d) = 2 * Real.log |a d| + Real.log (p.variances c d) := fun d => by
    rw [Real.log_mul (mul_self_ne_zero.mpr (ha d)) (hv c d).ne', Real.log_mul (ha d) (ha d), Real.log_abs, two_mul]
  have h2 : ∀ d, (a d * x d + b d - (a d * p.means c d + b d)) * (a d * x d + b d - (a d * p.means c d + b d))
      / (a d * a d * p.variances c d) = (x d - p.means c d) * (x d - p.means c d) / p.variances c d := fun d => by
    rw [add_sub_add_right_eq_sub, ← mul_sub, aff_cancel' ha]
  simp only [lwl, gNorm, affP, affX, logJac, sumFin_eq, Transc.log, h1, h2, Finset.sum_add_distrib, ← Finset.mul_sum]
  ring

/-- log-likelihoods shift by `−Σ log|a|` -/
theorem C15_loglik_shift (a b : Fin D → ℝ) (ha : ∀ d, a d ≠ 0) (p : Params (C+1) D ℝ)
    (hv : ∀ c d, 0 < p.variances c d) (x : Fin D → ℝ) :
    logLik (affP a b p) (affX a b x) = logLik p x - logJac a := by
  rw [logLik_eq, C01_shift p x (logJac a), add_sub_cancel_left]
  simp only [C15_lwl_shift a b ha p hv]

/-- responsibilities are unchanged -/
theorem C15_resp_invariant (a b : Fin D → ℝ) (ha : ∀ d, a d ≠ 0) (p : Params (C+1) D ℝ)
    (hv : ∀ c d, 0 < p.variances c d) (x : Fin D → ℝ) (c : Fin (C+1)) :
    resp (affP a b p) (affX a b x) c = resp p x c := by
  rw [resp, C15_lwl_shift a b ha p hv, C15_loglik_shift a b ha p hv, sub_sub_sub_cancel_right, resp]

theorem sum_affine {β : Type} (l : List β) (r x : β → ℝ) (a b : ℝ) :
    (l.map fun e => r e * (a * x e + b)).sum = a * (l.map fun e => r e * x e).sum + b * (l.map r).sum := by
  simp only [mul_add, mul_left_comm _ a, mul_comm _ b, List.sum_map_add, List.sum_map_mul_left]
theorem sum_affine_sq {β : Type} (l : List β) (r x : β → ℝ) (a b : ℝ) :
    (l.map fun e => r e * (a * x e + b) * (a * x e + b)).sum
      = a * a * (l.map fun e => r e * x e * x e).sum + 2 * a * b * (l.map fun e => r e * x e).sum + b * b * (l.map r).sum := by
  have h : ∀ e, r e * (a * x e + b) * (a * x e + b) = a * a * (r e * x e * x e) + 2 * a * b * (r e * x e) + b * b * r e :=
    fun e => by ring
  simp only [h, List.sum_map_add, List.sum_map_mul_left]
theorem sum_shift {β : Type} (l : List β) (f : β → ℝ) (k : ℝ) :
    (l.map fun e => f e - k).sum = (l.map f).sum - l.length * k := by
  simp only [sub_eq_add_neg, List.sum_map_add, List.map_const', List.sum_replicate, nsmul_eq_mul, mul_neg]

/-- the accumulated statistics transform as `N ↦ N`, `F ↦ aF + bN`, `S ↦ a²S + 2abF + b²N` -/
theorem C15_stats_equivariant (a b : Fin D → ℝ) (ha : ∀ d, a d ≠ 0) (p : Params (C+1) D ℝ)
    (hv : ∀ c d, 0 < p.variances c d) (xs : List (Fin D → ℝ)) :
    eStep (affP a b p) (xs.map (affX a b)) = affS a b (eStep p xs) (xs.length * logJac a) := by
  have hr : ∀ x c, Transc.exp (lwl (affP a b p) (affX a b x) c - logLik (affP a b p) (affX a b x))
      = Transc.exp (lwl p x c - logLik p x) := C15_resp_invariant a b ha p hv
  simp only [eStep, affS]
  congr 1
  · funext c
    simp only [lsum_eq, List.map_map, Function.comp_def, hr]
  · funext c d
    simp only [lsum_eq, List.map_map, Function.comp_def, hr, affX]
    exact sum_affine xs (fun x => Transc.exp (lwl p x c - logLik p x)) (fun x => x d) (a d) (b d)
  · funext c d
    simp only [lsum_eq, List.map_map, Function.comp_def, hr, affX]
    exact sum_affine_sq xs (fun x => Transc.exp (lwl p x c - logLik p x)) (fun x => x d) (a d) (b d)
  · simp only [lsum_eq, List.map_map, Function.comp_def, C15_loglik_shift a b ha p hv]
    exact sum_shift xs (logLik p) (logJac a)
  · simp

theorem mlMeans_aff (a b : Fin D → ℝ) (cfg cfg' : MlCfg C D ℝ) (p : Params C D ℝ) (st : Stats C D ℝ) (K : ℝ)
    (hthr : 0 < cfg.countThr) (h1 : cfg'.updMeans = cfg.updMeans) (h4 : cfg'.countThr = cfg.countThr) (c : Fin C) (d : Fin D) :
    mlMeans cfg' (affP a b p) (affS a b st K) c d = a d * mlMeans cfg p st c d + b d := by
  simp only [mlMeans, h1, h4, affS, affP]
  cases cfg.updMeans with
  | false => rfl
  | true =>
    by_cases hc : st.n c < cfg.countThr
    · simp only [if_true, if_pos hc]
    · simp only [if_true, if_neg hc, max_eq_left (not_lt.mp hc), aff_m1 (hthr.trans_le (not_lt.mp hc)).ne']

theorem mlRawVar_aff (a b : Fin D → ℝ) (cfg cfg' : MlCfg C D ℝ) (p : Params C D ℝ) (st : Stats C D ℝ) (K : ℝ)
    (hthr : 0 < cfg.countThr) (h1 : cfg'.updMeans = cfg.updMeans) (h4 : cfg'.countThr = cfg.countThr) (c : Fin C) (d : Fin D)
    (hc : ¬ st.n c < cfg.countThr) :
    mlRawVar cfg' (affP a b p) (affS a b st K) c d = a d * a d * mlRawVar cfg p st c d := by
  have hne := (hthr.trans_le (not_lt.mp hc)).ne'
  rw [mlRawVar, mlRawVar, mlMeans_aff a b cfg cfg' p st K hthr h1 h4]
  simp only [affS, h4, max_eq_left (not_lt.mp hc), aff_m1 hne, aff_m2 hne]
  ring

/-- **ML M-step equivariance** (`cfg'` is `cfg` with the floors transformed with the features; the count
threshold is positive, as in the code where it defaults to machine epsilon): new means `a μ' + b`, new
variances `a² v'`, unchanged weights — **whether or not a component is starved**: a component below the
count threshold keeps its mean and variance (repair D25; `C15_ml_starved_old_refuted` shows that the
pinned commit's update, which divided the partial sum by the threshold, is not shift-equivariant) -/
theorem C15_ml_equivariant (a b : Fin D → ℝ) (cfg cfg' : MlCfg C D ℝ) (p : Params C D ℝ)
    (st : Stats C D ℝ) (t K : ℝ) (hthr : 0 < cfg.countThr)
    (h1 : cfg'.updMeans = cfg.updMeans) (h2 : cfg'.updVars = cfg.updVars) (h3 : cfg'.updWeights = cfg.updWeights)
    (h4 : cfg'.countThr = cfg.countThr) (h5 : ∀ c d, cfg'.varFloor c d = a d * a d * cfg.varFloor c d) :
    mlMStep cfg' (affP a b p) (affS a b st K) t = affP a b (mlMStep cfg p st t) := by
  have hv : ∀ c d, (if (affS a b st K).n c < cfg.countThr then (affP a b p).variances c d
        else mlRawVar cfg' (affP a b p) (affS a b st K) c d)
      = a d * a d * (if st.n c < cfg.countThr then p.variances c d else mlRawVar cfg p st c d) := fun c d => by
    by_cases hc : st.n c < cfg.countThr
    · rw [if_pos hc, if_pos (show (affS a b st K).n c < _ from hc)]; rfl
    · rw [if_neg hc, if_neg (show ¬ (affS a b st K).n c < _ from hc), mlRawVar_aff a b cfg cfg' p st K hthr h1 h4 c d hc]
  simp only [mlMStep, h2, h3, h4, h5, hv, ← mul_max_of_nonneg _ _ (mul_self_nonneg _)]
  simp only [affP, affS, Params.mk.injEq, true_and]
  exact ⟨funext fun c => funext fun d => mlMeans_aff a b cfg cfg' p st K hthr h1 h4 c d, by cases cfg.updVars <;> rfl⟩

/-- the pinned commit's means update (`sum_px / max(n, thr)` also for a starved component) is **not**
shift-equivariant: one feature, a component with no data (`n = 0`, `sum_px = 0`) at mean 3, threshold
1, shift `b = 10`: it lands on the origin in both coordinate systems instead of on `13` (defect D25) -/
theorem C15_ml_starved_old_refuted :
    ∃ (cfg : MlCfg 1 1 ℝ) (p : Params 1 1 ℝ) (st : Stats 1 1 ℝ) (a b : Fin 1 → ℝ) (K : ℝ), (∀ d, a d ≠ 0) ∧
      mlMeansOld cfg (affP a b p) (affS a b st K) 0 0 ≠ a 0 * mlMeansOld cfg p st 0 0 + b 0 := by
  refine ⟨⟨true, false, false, 1, fun _ _ => 0⟩, ⟨fun _ => 1, fun _ _ => 3, fun _ _ => 1⟩,
    ⟨fun _ => 0, fun _ _ => 0, fun _ _ => 0, 0, 0⟩, fun _ => 1, fun _ => 10, 0, fun _ => one_ne_zero, ?_⟩
  simp [mlMeansOld, affS]

theorem gmmMlIter_aff (a b : Fin D → ℝ) (ha : ∀ d, a d ≠ 0) (cfg cfg' : MlCfg (C+1) D ℝ)
    (h1 : cfg'.updMeans = cfg.updMeans) (h2 : cfg'.updVars = cfg.updVars) (h3 : cfg'.updWeights = cfg.updWeights)
    (h4 : cfg'.countThr = cfg.countThr) (h5 : ∀ c d, cfg'.varFloor c d = a d * a d * cfg.varFloor c d)
    (hthr : 0 < cfg.countThr) (xs : List (Fin D → ℝ)) (p : Params (C+1) D ℝ) (hv : ∀ c d, 0 < p.variances c d) :
    (gmmMlIter cfg' (xs.map (affX a b)) (affP a b p)).1 = affP a b (gmmMlIter cfg xs p).1 := by
  simp only [gmmMlIter, C15_stats_equivariant a b ha p hv xs]
  exact C15_ml_equivariant a b cfg cfg' p (eStep p xs) _ _ hthr h1 h2 h3 h4 h5

/-- **ML training is equivariant for any number of iterations**: `k` EM iterations from the transformed
start on the transformed data (floors transformed like variances) give the transformed model — starved
components included (they keep their parameters, D25) -/
theorem C15_ml_training_equivariant (a b : Fin D → ℝ) (ha : ∀ d, a d ≠ 0) (cfg cfg' : MlCfg (C+1) D ℝ)
    (h1 : cfg'.updMeans = cfg.updMeans) (h2 : cfg'.updVars = cfg.updVars) (h3 : cfg'.updWeights = cfg.updWeights)
    (h4 : cfg'.countThr = cfg.countThr) (h5 : ∀ c d, cfg'.varFloor c d = a d * a d * cfg.varFloor c d)
    (hfl : ∀ c d, 0 < cfg.varFloor c d) (p0 : Params (C+1) D ℝ) (hv0 : ∀ c d, 0 < p0.variances c d)
    (xs : List (Fin D → ℝ)) (c0 c0' : ℝ) (k : ℕ) (hthr : 0 < cfg.countThr) :
    (traj (gmmMlIter cfg' (xs.map (affX a b))) (affP a b p0) c0' k).1 = affP a b (traj (gmmMlIter cfg xs) p0 c0 k).1 :=
  (traj_sim_inv _ _ (affP a b) (fun p => ∀ c d, 0 < p.variances c d) (fun p hv => mlMStep_var_pos cfg p _ _ hfl hv)
    (gmmMlIter_aff a b ha cfg cfg' h1 h2 h3 h4 h5 hthr xs) p0 hv0 c0 c0' k).1

/-- along such a run the reported criterion (average log-likelihood of the entering parameters) is the
original one shifted by the constant `Σ_d log|a_d|` — the quantity finding D24 is about -/
theorem C15_ml_criterion_shift (a b : Fin D → ℝ) (ha : ∀ d, a d ≠ 0) (cfg' : MlCfg (C+1) D ℝ) (p : Params (C+1) D ℝ)
    (hv : ∀ c d, 0 < p.variances c d) (xs : List (Fin D → ℝ)) (hne : xs ≠ []) (cfg : MlCfg (C+1) D ℝ) :
    (gmmMlIter cfg' (xs.map (affX a b)) (affP a b p)).2 = (gmmMlIter cfg xs p).2 - logJac a := by
  have hlen : (xs.length : ℝ) ≠ 0 := Nat.cast_ne_zero.mpr (List.length_pos_iff.mpr hne).ne'
  simp only [gmmMlIter, C15_stats_equivariant a b ha p hv xs]
  exact (sub_div _ _ _).trans (congrArg _ (mul_div_cancel_left₀ _ hlen))

theorem mapAlpha_aff (a b : Fin D → ℝ) (cfg : MapCfg C D ℝ) (st : Stats C D ℝ) (K : ℝ) (c : Fin C) :
    mapAlpha cfg (affS a b st K) c = mapAlpha cfg st c := rfl

/-- (`hn`: a count that reaches the threshold is not zero; both guards used below give it) -/
theorem mapMeans_aff (a b : Fin D → ℝ) (cfg : MapCfg C D ℝ) (ubm p : Params C D ℝ) (st : Stats C D ℝ) (K : ℝ) (c : Fin C) (d : Fin D)
    (hn : cfg.countThr ≤ st.n c → st.n c ≠ 0) :
    mapMeans cfg (affP a b ubm) (affP a b p) (affS a b st K) c d = a d * mapMeans cfg ubm p st c d + b d := by
  simp only [mapMeans, mapAlpha_aff]
  cases cfg.updMeans with
  | false => rfl
  | true =>
    -- the `Decidable` instance of the transformed test still mentions `affS`: give both forms
    by_cases hc : st.n c < cfg.countThr
    · simp only [↓reduceIte, if_pos hc, if_pos (show (affS a b st K).n c < _ from hc)]
      rfl
    · simp only [↓reduceIte, if_neg hc, if_neg (show ¬ (affS a b st K).n c < _ from hc)]
      simp only [affS, affP, aff_m1 (hn (not_lt.mp hc))]
      ring

/-- **MAP (Spec) equivariance of means and variances** for a component with evidence -/
theorem C15_map_equivariant_spec (a b : Fin D → ℝ) (cfg : MapCfg C D ℝ) (ubm p : Params C D ℝ) (st : Stats C D ℝ) (K : ℝ)
    (hm : cfg.updMeans = true) (c : Fin C) (d : Fin D) (hn : cfg.countThr ≤ st.n c) (hpos : 0 < st.n c) :
    mapMeans cfg (affP a b ubm) (affP a b p) (affS a b st K) c d = a d * mapMeans cfg ubm p st c d + b d ∧
    mapRawVarG (fun m => m * m) cfg (affP a b ubm) (affP a b p) (affS a b st K) c d
      = a d * a d * mapRawVarG (fun m => m * m) cfg ubm p st c d := by
  have hmean := mapMeans_aff a b cfg ubm p st K c d fun _ => hpos.ne'
  refine ⟨hmean, ?_⟩
  have hc : ¬ st.n c < cfg.countThr := not_lt.mpr hn
  simp only [mapRawVarG, hmean, mapAlpha_aff, if_neg hc, if_neg (show ¬ (affS a b st K).n c < _ from hc)]
  simp only [affS, affP, mul_div_assoc, aff_m2 hpos.ne']
  rw [C05_mean_blend cfg ubm p st hm c d hn]
  ring

/-- **MAP M-step with the variances not adapted (the usual means / weights adaptation) is equivariant**,
for every component, with or without evidence (`sq` is irrelevant: the variance blend is not used) -/
theorem C15_map_mstep_equivariant (sq : ℝ → ℝ) (a b : Fin D → ℝ) (cfg : MapCfg C D ℝ) (ubm p : Params C D ℝ) (st : Stats C D ℝ)
    (t K : ℝ) (huv : cfg.updVars = false) (hthr : 0 < cfg.countThr) :
    mapMStepG sq cfg (affP a b ubm) (affP a b p) (affS a b st K) t = affP a b (mapMStepG sq cfg ubm p st t) := by
  have hM : mapMeans cfg (affP a b ubm) (affP a b p) (affS a b st K) = fun c d => a d * mapMeans cfg ubm p st c d + b d :=
    funext fun c => funext fun d => mapMeans_aff a b cfg ubm p st K c d fun h => (hthr.trans_le h).ne'
  simp only [mapMStepG, hM, huv]
  rfl

/-- **MAP training (means / weights adaptation) is equivariant for any number of iterations** -/
theorem C15_map_training_equivariant (sq : ℝ → ℝ) (a b : Fin D → ℝ) (ha : ∀ d, a d ≠ 0) (cfg : MapCfg (C+1) D ℝ)
    (ubm p0 : Params (C+1) D ℝ) (huv : cfg.updVars = false) (hthr : 0 < cfg.countThr) (hv0 : ∀ c d, 0 < p0.variances c d)
    (xs : List (Fin D → ℝ)) (c0 c0' : ℝ) (k : ℕ) :
    (traj (gmmMapIter sq cfg (affP a b ubm) (xs.map (affX a b))) (affP a b p0) c0' k).1
      = affP a b (traj (gmmMapIter sq cfg ubm xs) p0 c0 k).1 :=
  (traj_sim_inv _ _ (affP a b) (fun p => ∀ c d, 0 < p.variances c d)
    (fun p hv => (mapMStepG_variances_of_not sq cfg ubm p _ _ huv).symm ▸ hv)
    (fun p hv => by
      simp only [gmmMapIter, C15_stats_equivariant a b ha p hv xs]
      exact C15_map_mstep_equivariant sq a b cfg ubm p _ _ _ huv hthr) p0 hv0 c0 c0' k).1

/-- the pinned commit's variance blend is **not** equivariant (same root cause as C05's finding):
witness `a = 2`, `b = 0` on the D3 data -/
theorem C15_map_var_code_not_equivariant :
    let cfg : MapCfg 1 1 ℝ := ⟨true, true, false, true, 4, 1/2, 0, fun _ _ => 0⟩
    let ubm : Params 1 1 ℝ := ⟨fun _ => 1, fun _ _ => 2, fun _ _ => 1⟩
    let st : Stats 1 1 ℝ := ⟨fun _ => 4, fun _ _ => 8, fun _ _ => 20, 0, 4⟩
    let a : Fin 1 → ℝ := fun _ => 2
    let b : Fin 1 → ℝ := fun _ => 0
    mapRawVarG (fun m => m) cfg (affP a b ubm) (affP a b ubm) (affS a b st 0) 0 0
      ≠ a 0 * a 0 * mapRawVarG (fun m => m) cfg ubm ubm st 0 0 := by
  simp only [mapRawVarG, mapMeans, mapAlpha, affP, affS]
  norm_num

/-- **linear scores are invariant** (UBM, model means, statistics and channel offsets transformed) -/
theorem C15_linear_score_invariant (a b : Fin D → ℝ) (ha : ∀ d, a d ≠ 0) (um uv model : Fin C → Fin D → ℝ)
    (hv : ∀ c d, uv c d ≠ 0) (st : LStat C D ℝ) (off : Fin C → Fin D → ℝ) (norm : Bool) (eps : ℝ) :
    linearScore (fun c d => a d * um c d + b d) (fun c d => a d * a d * uv c d) (fun c d => a d * model c d + b d)
        ⟨st.n, fun c d => a d * st.sumPx c d + b d * st.n c, st.t⟩ (fun c d => a d * off c d) norm eps
      = linearScore um uv model st off norm eps := by
  have h : ∀ c d, a d * st.sumPx c d + b d * st.n c - st.n c * (a d * um c d + b d + a d * off c d)
      = a d * (st.sumPx c d - st.n c * (um c d + off c d)) := fun c d => by ring
  simp only [linearScore_eq, h, add_sub_add_right_eq_sub, ← mul_sub, aff_cancel ha]

def affM {rU rV : ℕ} (a b : Fin D → ℝ) (M : FA.Model C D rU rV ℝ) : FA.Model C D rU rV ℝ :=
  ⟨fun c d => a d * M.m c d + b d, fun c d => a d * a d * M.s c d, fun c d r => a d * M.U c d r,
   fun c d r => a d * M.V c d r, fun c d => a d * M.Dd c d⟩
def affSt (a b : Fin D → ℝ) (s : FA.St C D ℝ) : FA.St C D ℝ :=
  ⟨s.n, fun c d => a d * s.f c d + b d * s.n c, s.t⟩

theorem affM_U {rU rV : ℕ} (a b : Fin D → ℝ) (M : FA.Model C D rU rV ℝ) : (affM a b M).U = fun c d k => a d * M.U c d k := rfl
theorem affM_V {rU rV : ℕ} (a b : Fin D → ℝ) (M : FA.Model C D rU rV ℝ) : (affM a b M).V = fun c d k => a d * M.V c d k := rfl

/-! ISV / JFA: every statistic enters through a centred residual `F − N (m + …)`, which scales with the feature
(`fnX_aff`, `fnY_aff`, `fnZ_aff`), and is paired with a loading through `Σ⁻¹` (`idPlusInv_aff`, `projT_aff`): the latent
factors do not move, and the training iterations commute with the transformation outright (`iter_comm`). -/

section EnrolAffine
variable {rU rV : ℕ}

section
open BobEM.FA
variable (a b : Fin D → ℝ)

theorem apply_aff {r : ℕ} (L : Fin C → Fin D → Fin r → ℝ) (x : Fin r → ℝ) (c : Fin C) (d : Fin D) :
    FA.apply (fun c d k => a d * L c d k) x c d = a d * FA.apply L x c d := by
  simp only [FA.apply, sumFin_eq, Finset.mul_sum, mul_assoc]

theorem nAcc_aff (sts : List (St C D ℝ)) : nAcc (sts.map (affSt a b)) = nAcc sts := by
  funext c
  simp only [nAcc, affSt, List.map_map, Function.comp_def]

theorem fAcc_aff (sts : List (St C D ℝ)) (c : Fin C) (d : Fin D) :
    fAcc (sts.map (affSt a b)) c d = a d * fAcc sts c d + b d * nAcc sts c := by
  simp only [fAcc, nAcc, affSt, lsum_eq, List.map_map, Function.comp_def, List.sum_map_add, List.sum_map_mul_left]

theorem uxTerm_aff (M : Model C D rU rV ℝ) (sts : List (St C D ℝ)) (xs : List (Fin rU → ℝ)) (c : Fin C) (d : Fin D) :
    uxTerm (affM a b M) (sts.map (affSt a b)) xs c d = a d * uxTerm M sts xs c d := by
  simp only [uxTerm, lsum_eq, List.zip_map_left, List.map_map, Function.comp_def, ← List.sum_map_mul_left]
  exact congrArg List.sum (List.map_congr_left fun p _ => (congrArg _ (apply_aff a M.U p.2 c d)).trans (mul_left_comm _ _ _))

theorem fnX_aff (M : Model C D rU rV ℝ) (st : St C D ℝ) (y : Fin rV → ℝ) (z : Fin C → Fin D → ℝ) (c : Fin C) (d : Fin D) :
    fnX (affM a b M) (affSt a b st) y z c d = a d * fnX M st y z c d := by
  simp only [fnX, affM, affSt, apply_aff]; ring

theorem fnY_aff (M : Model C D rU rV ℝ) (sts : List (St C D ℝ)) (xs : List (Fin rU → ℝ)) (z : Fin C → Fin D → ℝ)
    (c : Fin C) (d : Fin D) :
    fnY (affM a b M) (sts.map (affSt a b)) xs z c d = a d * fnY M sts xs z c d := by
  simp only [fnY, fAcc_aff, nAcc_aff, uxTerm_aff]
  simp only [affM]; ring

theorem fnZ_aff (M : Model C D rU rV ℝ) (sts : List (St C D ℝ)) (xs : List (Fin rU → ℝ)) (y : Fin rV → ℝ)
    (c : Fin C) (d : Fin D) :
    fnZ (affM a b M) (sts.map (affSt a b)) xs y c d = a d * fnZ M sts xs y c d := by
  simp only [fnZ, fAcc_aff, nAcc_aff, uxTerm_aff]
  simp only [affM, apply_aff]; ring

theorem updateZ_eq (M : Model C D rU rV ℝ) (sts : List (St C D ℝ)) (xs : List (Fin rU → ℝ)) (y : Fin rV → ℝ) (c : Fin C) (d : Fin D) :
    updateZ M sts xs y c d
      = 1 / (1 + M.Dd c d / M.s c d * M.Dd c d * nAcc sts c) * (M.Dd c d / M.s c d * fnZ M sts xs y c d) :=
  mul_assoc _ _ _

variable (ha : ∀ d, a d ≠ 0)
include ha

theorem idPlusInv_aff {r : ℕ} (M : Model C D rU rV ℝ) (L : Fin C → Fin D → Fin r → ℝ) (n : Fin C → ℝ) :
    idPlusInv (affM a b M) (fun c d k => a d * L c d k) n = idPlusInv M L n := by
  simp only [idPlusInv, prodN, affM, aff_cancel' ha]

theorem projT_aff {r : ℕ} (M : Model C D rU rV ℝ) (L : Fin C → Fin D → Fin r → ℝ) {g g' : Fin C → Fin D → ℝ}
    (hg : ∀ c d, g' c d = a d * g c d) :
    projT (affM a b M) (fun c d k => a d * L c d k) g' = projT M L g := by
  funext k
  simp only [projT, affM, hg, aff_cancel ha]

theorem latentX_aff (M : Model C D rU rV ℝ) (st : St C D ℝ) (y : Fin rV → ℝ) (z : Fin C → Fin D → ℝ) :
    latentX (affM a b M) (affSt a b st) y z = latentX M st y z :=
  congrArg₂ FA.mulVec (idPlusInv_aff a b ha M M.U st.n) (projT_aff a b ha M M.U (fnX_aff a b M st y z))

theorem updateY_aff (M : Model C D rU rV ℝ) (sts : List (St C D ℝ)) (xs : List (Fin rU → ℝ)) (z : Fin C → Fin D → ℝ) :
    updateY (affM a b M) (sts.map (affSt a b)) xs z = updateY M sts xs z :=
  congrArg₂ FA.vecMul (projT_aff a b ha M M.V (fnY_aff a b M sts xs z))
    ((congrArg _ (nAcc_aff a b sts)).trans (idPlusInv_aff a b ha M M.V _))

theorem updateZ_aff (M : Model C D rU rV ℝ) (sts : List (St C D ℝ)) (xs : List (Fin rU → ℝ)) (y : Fin rV → ℝ) :
    updateZ (affM a b M) (sts.map (affSt a b)) xs y = updateZ M sts xs y := by
  funext c d
  simp only [updateZ_eq, fnZ_aff, nAcc_aff]
  simp only [affM, aff_cancel ha]
end

/-- **ISV / JFA enrolment is invariant**: after any number of iterations the latent factors
`(y, x_1 … x_H, z)` of the transformed problem (features `a ⊙ x + b`, UBM means / variances, `U`, `V`,
`D` transformed accordingly) are those of the original one -/
theorem C15_enroll_invariant (a b : Fin D → ℝ) (ha : ∀ d, a d ≠ 0) (M : FA.Model C D rU rV ℝ) (hs : ∀ c d, M.s c d ≠ 0)
    (sts : List (FA.St C D ℝ)) (k : ℕ) :
    FA.enroll (affM a b M) (sts.map (affSt a b)) k = FA.enroll M sts k := by
  induction k with
  | zero => simp only [FA.enroll, List.length_map]
  | succ k ih =>
    simp only [FA.enroll, FA.sweep, ih, updateY_aff a b ha, updateZ_aff a b ha, List.map_map, Function.comp_def, latentX_aff a b ha]
end EnrolAffine

/-- **channel factors are invariant**: the posterior mean `x̂` of a probe is unchanged when features,
UBM and the subspace rows are transformed -/
theorem C15_latent_invariant {rU rV : ℕ} (a b : Fin D → ℝ) (ha : ∀ d, a d ≠ 0) (M : FA.Model C D rU rV ℝ)
    (hs : ∀ c d, M.s c d ≠ 0) (sts : List (FA.St C D ℝ)) :
    FA.estimateX (affM a b M) (sts.map (affSt a b)) = FA.estimateX M sts := by
  refine congrArg₂ FA.mulVec ((congrArg _ (nAcc_aff a b sts)).trans (idPlusInv_aff a b ha M M.U _))
    (projT_aff a b ha M M.U fun c d => ?_)
  simp only [fAcc_aff, nAcc_aff, affM]; ring

section TrainAffine
open BobEM.FA
variable {rU rV : ℕ}

theorem iter_congr {β : Type} (f g : β → β) (h : ∀ x, f x = g x) (k : ℕ) (x : β) : iter f k x = iter g k x := by
  induction k generalizing x with
  | zero => rfl
  | succ k ih => simp only [iter, h, ih]

/-- commuting a map through an iteration -/
theorem iter_comm {β : Type} (f g : β → β) (φ : β → β) (h : ∀ x, f (φ x) = φ (g x)) (k : ℕ) (x : β) :
    iter f k (φ x) = φ (iter g k x) := by
  induction k generalizing x with
  | zero => rfl
  | succ k ih => simp only [iter, h, ih]

def affCl (a b : Fin D → ℝ) (cl : List (List (St C D ℝ))) : List (List (St C D ℝ)) := cl.map fun sts => sts.map (affSt a b)

/-- accumulators whose `a2` rows are scaled like the features -/
def accScale {r : ℕ} (a : Fin D → ℝ) (x : Acc C D r ℝ) : Acc C D r ℝ := ⟨x.a1, fun c d k => a d * x.a2 c d k⟩

theorem Acc_sum_scale {r : ℕ} {β : Type} (a : Fin D → ℝ) (l : List β) (e : β → Acc C D r ℝ) :
    Acc.sum (l.map fun x => accScale a (e x)) = accScale a (Acc.sum (l.map e)) := by
  simp only [Acc_sum_eq, accScale, List.map_map, Function.comp_def, List.sum_map_mul_left]

theorem solveLoading_scale {r : ℕ} (a : Fin D → ℝ) (x : Acc C D r ℝ) :
    solveLoading (accScale a x) = fun c d k => a d * solveLoading x c d k := by
  funext c d k
  simp only [solveLoading, accScale, sumFin_eq, Finset.mul_sum, mul_assoc]

theorem zerosX_len_map (a b : Fin D → ℝ) (sts : List (St C D ℝ)) : zerosX (rU := rU) (sts.map (affSt a b)).length = zerosX sts.length := by
  simp

section
variable (a b : Fin D → ℝ) (ha : ∀ d, a d ≠ 0)
include ha

theorem eStepV_aff (M : Model C D rU rV ℝ) (sts : List (St C D ℝ)) :
    eStepV (affM a b M) (sts.map (affSt a b)) = accScale a (eStepV M sts) := by
  simp only [eStepV, accScale, List.length_map, updateY_aff a b ha, nAcc_aff, fnY_aff, mul_assoc, affM_V, idPlusInv_aff a b ha]

theorem stepV_aff (M : Model C D rU rV ℝ) (cl : List (List (St C D ℝ))) :
    stepV (affM a b M) (affCl a b cl) = affM a b (stepV M cl) := by
  simp only [stepV, affCl, List.map_map, Function.comp_def, eStepV_aff a b ha, Acc_sum_scale, solveLoading_scale]
  rfl

theorem finalizeV_aff (M : Model C D rU rV ℝ) (cl : List (List (St C D ℝ))) :
    finalizeV (affM a b M) (affCl a b cl) = finalizeV M cl := by
  simp only [finalizeV, affCl, List.map_map, Function.comp_def, List.length_map, updateY_aff a b ha]

theorem sessAccU_aff (M : Model C D rU rV ℝ) (st : St C D ℝ) (y : Fin rV → ℝ) (z : Fin C → Fin D → ℝ) :
    sessAccU (affM a b M) (affSt a b st) y z = accScale a (sessAccU M st y z) := by
  simp only [sessAccU, accScale, latentX_aff a b ha, fnX_aff, mul_assoc, affM_U, idPlusInv_aff a b ha]
  rfl

theorem eStepU_aff (M : Model C D rU rV ℝ) (sts : List (St C D ℝ)) (y : Fin rV → ℝ) :
    eStepU (affM a b M) (sts.map (affSt a b)) y = accScale a (eStepU M sts y) := by
  simp only [eStepU, List.map_map, Function.comp_def, sessAccU_aff a b ha, Acc_sum_scale]

theorem stepU_aff (M : Model C D rU rV ℝ) (cl : List (List (St C D ℝ))) (ys : List (Fin rV → ℝ)) :
    stepU (affM a b M) (affCl a b cl) ys = affM a b (stepU M cl ys) := by
  simp only [stepU, affCl, List.zip_map_left, List.map_map, Function.comp_def, Prod.map, id, eStepU_aff a b ha, Acc_sum_scale, solveLoading_scale]
  rfl

theorem finalizeU_aff (M : Model C D rU rV ℝ) (cl : List (List (St C D ℝ))) (ys : List (Fin rV → ℝ)) :
    finalizeU (affM a b M) (affCl a b cl) ys = finalizeU M cl ys := by
  simp only [finalizeU, affCl, List.zip_map_left, List.map_map, Function.comp_def, Prod.map, id, latentX_aff a b ha]

def accDScale (a : Fin D → ℝ) (x : AccD C D ℝ) : AccD C D ℝ := ⟨x.a1, fun c d => a d * x.a2 c d⟩

omit ha in
theorem AccD_sum_scale {β : Type} (l : List β) (e : β → AccD C D ℝ) :
    AccD.sum (l.map fun x => accDScale a (e x)) = accDScale a (AccD.sum (l.map e)) := by
  simp only [AccD_sum_eq, accDScale, List.map_map, Function.comp_def, List.sum_map_mul_left]

theorem eStepD_aff (M : Model C D rU rV ℝ) (sts : List (St C D ℝ)) (xs : List (Fin rU → ℝ)) (y : Fin rV → ℝ) :
    eStepD (affM a b M) (sts.map (affSt a b)) xs y = accDScale a (eStepD M sts xs y) := by
  simp only [eStepD, accDScale, updateZ_aff a b ha, nAcc_aff, fnZ_aff]
  simp only [affM, aff_cancel ha, mul_assoc (a _) (fnZ ..)]

theorem stepD_aff (M : Model C D rU rV ℝ) (cl : List (List (St C D ℝ))) (xss : List (List (Fin rU → ℝ))) (ys : List (Fin rV → ℝ)) :
    stepD (affM a b M) (affCl a b cl) xss ys = affM a b (stepD M cl xss ys) := by
  simp only [stepD, affCl, List.zip_map_left, List.map_map, Function.comp_def, Prod.map, id, eStepD_aff a b ha, AccD_sum_scale]
  simp only [affM, accDScale, mul_div_assoc]

theorem eStepIsv_aff (M : Model C D rU rV ℝ) (sts : List (St C D ℝ)) :
    eStepIsv (affM a b M) (sts.map (affSt a b)) = accScale a (eStepIsv M sts) := by
  simp only [eStepIsv, List.map_map, Function.comp_def, latentX_aff a b ha, updateZ_aff a b ha, List.zip_map_left, Prod.map, id,
    fnX_aff, mul_assoc, ← Acc_sum_scale]
  simp only [accScale, affSt, affM_U, idPlusInv_aff a b ha]

theorem stepIsv_aff (M : Model C D rU rV ℝ) (cl : List (List (St C D ℝ))) :
    stepIsv (affM a b M) (affCl a b cl) = affM a b (stepIsv M cl) := by
  simp only [stepIsv, affCl, List.map_map, Function.comp_def, eStepIsv_aff a b ha, Acc_sum_scale, solveLoading_scale]
  rfl

end

theorem affM_s_ne (a b : Fin D → ℝ) (M : Model C D rU rV ℝ) : (affM a b M).s = fun c d => a d * a d * M.s c d := rfl

/-- **JFA training is equivariant**: training on the transformed features from the transformed
initial model gives the transformed model (UBM means / variances and the rows of `U`, `V`, `D` follow
the features), for all three phases and any number of iterations -/
theorem C15_jfa_training_equivariant (a b : Fin D → ℝ) (ha : ∀ d, a d ≠ 0) (M0 : Model C D rU rV ℝ) (hs : ∀ c d, M0.s c d ≠ 0)
    (cl : List (List (St C D ℝ))) (k : ℕ) :
    jfaFit (affM a b M0) (affCl a b cl) k = affM a b (jfaFit M0 cl k) := by
  have hV := iter_comm (fun M : Model C D rU rV ℝ => stepV M (affCl a b cl)) _ _ (fun M => stepV_aff a b ha M cl) k
  have hU := fun ys => iter_comm (fun M : Model C D rU rV ℝ => stepU M (affCl a b cl) ys) _ _ (fun M => stepU_aff a b ha M cl ys) k
  have hD := fun xss ys => iter_comm (fun M : Model C D rU rV ℝ => stepD M (affCl a b cl) xss ys) _ _
    (fun M => stepD_aff a b ha M cl xss ys) k
  simp only [FA.jfaFit_spec, hV, finalizeV_aff a b ha, hU, finalizeU_aff a b ha, hD]

/-- **ISV training is equivariant** -/
theorem C15_isv_training_equivariant (a b : Fin D → ℝ) (ha : ∀ d, a d ≠ 0) (M0 : Model C D rU rV ℝ) (hs : ∀ c d, M0.s c d ≠ 0)
    (cl : List (List (St C D ℝ))) (k : ℕ) :
    isvFit (affM a b M0) (affCl a b cl) k = affM a b (isvFit M0 cl k) := by
  simp only [isvFit, FA.materialize_eq]
  exact iter_comm (fun M : Model C D rU rV ℝ => stepIsv M (affCl a b cl)) _ _ (fun M => stepIsv_aff a b ha M cl) k M0
end TrainAffine

section IVAffine
variable {R : ℕ}

def affIV (a b : Fin D → ℝ) (m : IV.Machine C D R ℝ) : IV.Machine C D R ℝ :=
  ⟨fun c d => a d * m.ubmMeans c d + b d, fun c d t => a d * m.T c d t, fun c d => a d * a d * m.sigma c d⟩
def affG (a b : Fin D → ℝ) (st : IV.GStat C D ℝ) : IV.GStat C D ℝ :=
  ⟨st.n, fun c d => a d * st.f c d + b d * st.n c, fun c d => a d * a d * st.s c d + 2 * a d * b d * st.f c d + b d * b d * st.n c⟩

def affStats (a : Fin D → ℝ) (st : IV.Stats C D R ℝ) : IV.Stats C D R ℝ :=
  ⟨st.nsw2, fun c d t => a d * st.fsw c d t, fun c d => a d * a d * st.snorm c d, st.nij⟩

section
variable (a b : Fin D → ℝ) (ha : ∀ d, a d ≠ 0)
include ha

theorem iv_precision_aff (m : IV.Machine C D R ℝ) (n : Fin C → ℝ) : IV.precision (affIV a b m) n = IV.precision m n := by
  funext t u
  simp only [IV.precision, affIV, aff_cancel' ha]

/-- (the second-order part of the statistic is not read) -/
theorem iv_rhs_aff (m : IV.Machine C D R ℝ) (st : IV.GStat C D ℝ) (s' : Fin C → Fin D → ℝ) :
    IV.rhs (affIV a b m) ⟨st.n, fun c d => a d * st.f c d + b d * st.n c, s'⟩ = IV.rhs m st := by
  funext t
  have h : ∀ c d, a d * st.f c d + b d * st.n c - st.n c * (a d * m.ubmMeans c d + b d)
      = a d * (st.f c d - st.n c * m.ubmMeans c d) := fun c d => by ring
  simp only [IV.rhs, affIV, h, aff_cancel ha]

theorem iv_contrib_aff (m : IV.Machine C D R ℝ) (st : IV.GStat C D ℝ) :
    IV.contrib (affIV a b m) (affG a b st) = affStats a (IV.contrib m st) := by
  have hr : IV.rhs (affIV a b m) (affG a b st) = IV.rhs m st := iv_rhs_aff a b ha m st _
  simp only [IV.contrib, affStats, show (affG a b st).n = st.n from rfl, iv_precision_aff a b ha, hr]
  simp only [affG, affIV, IV.Stats.mk.injEq, true_and, and_true]
  exact ⟨funext fun c => funext fun d => funext fun t => by ring, funext fun c => funext fun d => by ring⟩

theorem iv_eStep_aff (m : IV.Machine C D R ℝ) (l : List (IV.GStat C D ℝ)) :
    IV.eStep (affIV a b m) (l.map (affG a b)) = affStats a (IV.eStep m l) := by
  induction l with
  | nil => simp [IV.eStep, IV.Stats.zero, affStats]
  | cons x l ih =>
    rw [List.map_cons, IV.eStep_cons, IV.eStep_cons, ih, iv_contrib_aff a b ha]
    simp only [affStats, IV.Stats.add, mul_add]

end

/-- **i-vectors are invariant**: with `T` rows and `σ` transformed like the features, the posterior
mean of the total-variability factor of a statistic is unchanged -/
theorem C15_ivector_invariant {R : ℕ} (a b : Fin D → ℝ) (ha : ∀ d, a d ≠ 0) (m : IV.Machine C D R ℝ) (hs : ∀ c d, m.sigma c d ≠ 0)
    (st : IV.GStat C D ℝ) (s' : Fin C → Fin D → ℝ) :
    IV.project ⟨fun c d => a d * m.ubmMeans c d + b d, fun c d t => a d * m.T c d t, fun c d => a d * a d * m.sigma c d⟩
        ⟨st.n, fun c d => a d * st.f c d + b d * st.n c, s'⟩
      = IV.project m st :=
  congrArg₂ (fun P v => FA.mulVec (LinAlg.inv R P) v) (iv_precision_aff a b ha m st.n) (iv_rhs_aff a b ha m st s')

section
variable (a b : Fin D → ℝ)
theorem ivX_aff (st : IV.Stats C D R ℝ) (c : Fin C) (t : Fin R) (d : Fin D) : ivX (affStats a st) c t d = a d * ivX st c t d := by
  simp only [ivX, affStats, sumFin_eq, mul_ite, mul_zero, Finset.mul_sum, mul_left_comm (a d)]

theorem ivRaw_aff (sig : Fin C → Fin D → ℝ) (st : IV.Stats C D R ℝ) (c : Fin C) (d : Fin D) :
    ivRaw (fun c d => a d * a d * sig c d) (affStats a st) c d = a d * a d * ivRaw sig st c d := by
  simp only [ivRaw, ivX_aff, mul_ite]
  simp only [affStats, sumFin_eq, mul_mul_mul_comm (a d), ← Finset.mul_sum, ← mul_sub, mul_div_assoc]

/-- **one i-vector M-step is equivariant** as soon as the clamp at the floor is (no condition when the covariances
are not updated) -/
theorem iv_mStep_aff (m : IV.Machine C D R ℝ) (st : IV.Stats C D R ℝ) (upd : Bool) (floor floor' : ℝ)
    (hcl : upd = true → ∀ c d, (if a d * a d * ivRaw m.sigma st c d < floor' then floor' else a d * a d * ivRaw m.sigma st c d)
      = a d * a d * (if ivRaw m.sigma st c d < floor then floor else ivRaw m.sigma st c d)) :
    IV.mStep (affIV a b m) (affStats a st) upd floor' = affIV a b (IV.mStep m st upd floor) := by
  simp only [mStep_eq, affIV, ivX_aff, ivRaw_aff, IV.Machine.mk.injEq, true_and]
  cases upd with
  | false => rfl
  | true => exact funext fun c => funext fun d => hcl rfl c d

theorem iv_iterate_aff (ha : ∀ d, a d ≠ 0) (parts : List (List (IV.GStat C D ℝ))) (upd : Bool) (floor floor' : ℝ) (m : IV.Machine C D R ℝ)
    (hcl : upd = true → ∀ (r : ℝ) d, (if a d * a d * r < floor' then floor' else a d * a d * r) = a d * a d * (if r < floor then floor else r)) :
    IV.iterate (parts.map fun l => l.map (affG a b)) upd floor' (affIV a b m) = affIV a b (IV.iterate parts upd floor m) := by
  simp only [IV.iterate_eq, ← List.map_flatten, iv_eStep_aff a b ha]
  exact iv_mStep_aff a b m _ upd floor floor' fun h c d => hcl h _ d

end

/-- **i-vector training with fixed covariances is equivariant**: training on the transformed statistics
from the transformed machine gives the transformed machine, for any partitioning and number of iterations -/
theorem C15_ivector_training_equivariant (a b : Fin D → ℝ) (ha : ∀ d, a d ≠ 0) (m0 : IV.Machine C D R ℝ) (hs : ∀ c d, m0.sigma c d ≠ 0)
    (parts : List (List (IV.GStat C D ℝ))) (floor : ℝ) (k : ℕ) :
    IV.fit (affIV a b m0) (parts.map fun l => l.map (affG a b)) false floor k = affIV a b (IV.fit m0 parts false floor k) := by
  induction k with
  | zero => simp only [IV.fit, IV.materialize_eq]
  | succ k ih => rw [IV.fit, ih, iv_iterate_aff a b ha parts false floor floor _ nofun]; rfl

/-- **one i-vector M-step with covariance update is equivariant while the floor is inactive** on both
sides (the scalar `variance_floor` is not a scale-free quantity: where it clamps, equivariance under a
per-feature rescaling cannot hold) -/
theorem C15_ivector_mstep_sigma_equivariant (a b : Fin D → ℝ) (m : IV.Machine C D R ℝ) (st st' : IV.Stats C D R ℝ) (floor : ℝ)
    (h1 : st'.nsw2 = st.nsw2) (h2 : st'.fsw = fun c d t => a d * st.fsw c d t)
    (h3 : st'.snorm = fun c d => a d * a d * st.snorm c d) (h4 : st'.nij = st.nij)
    (hin : ∀ c d, ¬ ((if Transc.isZero (st.nij c) then m.sigma c d
        else (st.snorm c d - sumFin R fun t => st.fsw c d t *
          (if IV.anyNonzero (st.nsw2 c) then sumFin R fun u => LinAlg.inv R (fun x y => st.nsw2 c y x) t u * st.fsw c d u else 0)) / st.nij c) < floor))
    (hin' : ∀ c d, ¬ (a d * a d * (if Transc.isZero (st.nij c) then m.sigma c d
        else (st.snorm c d - sumFin R fun t => st.fsw c d t *
          (if IV.anyNonzero (st.nsw2 c) then sumFin R fun u => LinAlg.inv R (fun x y => st.nsw2 c y x) t u * st.fsw c d u else 0)) / st.nij c) < floor)) :
    IV.mStep (affIV a b m) st' true floor = affIV a b (IV.mStep m st true floor) := by
  obtain rfl : st' = affStats a st := by
    cases st'
    simp only at h1 h2 h3 h4
    subst h1 h2 h3 h4
    rfl
  exact iv_mStep_aff a b m st true floor floor fun _ c d =>
    (if_neg (hin' c d)).trans (congrArg _ (if_neg (hin c d)).symm)

/-- **i-vector training with covariance update is equivariant** under any uniform scale `s ≠ 0` and any
shift `b`, the scalar `variance_floor` being transformed like a variance (`s² · floor`): for every
partitioning of the statistics and every number of iterations, whether or not the floor clamps on the way -/
theorem C15_ivector_training_sigma_equivariant (s : ℝ) (hs0 : s ≠ 0) (b : Fin D → ℝ) (m0 : IV.Machine C D R ℝ)
    (hs : ∀ c d, m0.sigma c d ≠ 0) (parts : List (List (IV.GStat C D ℝ))) (floor : ℝ) (hfl : 0 < floor) (k : ℕ) :
    IV.fit (affIV (fun _ => s) b m0) (parts.map fun l => l.map (affG (fun _ => s) b)) true (s * s * floor) k
      = affIV (fun _ => s) b (IV.fit m0 parts true floor k) := by
  induction k with
  | zero => simp only [IV.fit, IV.materialize_eq]
  | succ k ih =>
    rw [IV.fit, ih, iv_iterate_aff (fun _ => s) b (fun _ => hs0) parts true floor]
    · rfl
    · exact fun _ r _ => by simp only [mul_lt_mul_iff_right₀ (mul_self_pos.mpr hs0), mul_ite]
end IVAffine

/-- **k-means**: under a uniform scale `s ≠ 0` and a shift `t`, squared distances scale by `s²`, so the
assignment of every sample is unchanged -/
theorem C15_kmeans_scale_shift {K : ℕ} (s : ℝ) (hs : s ≠ 0) (t : Fin D → ℝ) (cent : Fin (K+1) → Fin D → ℝ) (x : Fin D → ℝ) :
    (∀ k, sqDist (fun d => s * x d + t d) (fun d => s * cent k d + t d) = s * s * sqDist x (cent k)) ∧
    assign (fun k d => s * cent k d + t d) (fun d => s * x d + t d) = assign cent x :=
  ⟨fun k => (KSim.scaleShift s hs t).dist x (cent k), (KSim.scaleShift s hs t).assign_eq cent x⟩

/-- **k-means, rotations**: an orthogonal map preserves all squared distances -/
theorem C15_kmeans_rotation (Q : Matrix (Fin D) (Fin D) ℝ) (hQ : Qᵀ * Q = 1) (x c : Fin D → ℝ) :
    sqDist (Q.mulVec x) (Q.mulVec c) = sqDist x c :=
  ((KSim.rotation Q hQ).dist x c).trans (one_mul _)

/-- **a whole k-means fit follows a uniform scaling with a shift**: from the transformed initial
centroids on the transformed data (any chunking, any threshold, any iteration limit) `fit` performs the
same number of iterations and returns the transformed centroids; empty clusters keep their (transformed)
centroid, the relative stopping test does not see the factor `s²` of the criterion -/
theorem C15_kmeans_fit_scale_shift {K : ℕ} (s : ℝ) (hs : s ≠ 0) (t : Fin D → ℝ) (thr : Option ℝ) (fuel : ℕ) (c0 : ℝ)
    (cent0 : Fin (K+1) → Fin D → ℝ) (blocks : List (List (Fin D → ℝ))) :
    kFit thr fuel (s * s * c0) (fun k d => s * cent0 k d + t d) (blocks.map fun b => b.map fun x d => s * x d + t d)
      = ((fun k d => s * (kFit thr fuel c0 cent0 blocks).1 k d + t d), (kFit thr fuel c0 cent0 blocks).2) :=
  kFit_sim (KSim.scaleShift s hs t) thr fuel c0 cent0 blocks

/-- **… and any rotation / reflection** -/
theorem C15_kmeans_fit_rotation {K : ℕ} (Q : Matrix (Fin D) (Fin D) ℝ) (hQ : Qᵀ * Q = 1) (thr : Option ℝ) (fuel : ℕ) (c0 : ℝ)
    (cent0 : Fin (K+1) → Fin D → ℝ) (blocks : List (List (Fin D → ℝ))) :
    kFit thr fuel c0 (fun k => Q.mulVec (cent0 k)) (blocks.map fun b => b.map Q.mulVec)
      = ((fun k => Q.mulVec ((kFit thr fuel c0 cent0 blocks).1 k)), (kFit thr fuel c0 cent0 blocks).2) :=
  kFit_sim_any (KSim.rotation Q hQ) thr fuel c0 c0 cent0 blocks

/-- one iteration, for the record: centroids mapped, criterion times `s²` -/
theorem C15_kmeans_iter_scale_shift {K : ℕ} (s : ℝ) (hs : s ≠ 0) (t : Fin D → ℝ)
    (cent : Fin (K+1) → Fin D → ℝ) (blocks : List (List (Fin D → ℝ))) :
    kIter (blocks.map fun b => b.map fun x d => s * x d + t d) (fun k d => s * cent k d + t d)
      = ((fun k d => s * (kIter blocks cent).1 k d + t d), s * s * (kIter blocks cent).2) :=
  (KSim.scaleShift s hs t).kIter_sim blocks cent

/-! ### the stopping tests under a change of units (finding D24)

A change of units `x ↦ a x + b` shifts every log-likelihood, hence the average log-likelihood that
`GMMMachine.fit` reports, by the constant `K = Σ_d log|a_d|` (`C15_loglik_shift`).  `fit` stops on
`|prev − cur| / |prev| ≤ thr`: the numerator is unit-free, the denominator is not.  The k-means
criterion scales by `s²`, which cancels. -/
section StopRule

/-- the absolute change of the criterion is unit-free -/
theorem C15_abs_change_unit_free (prev cur K : ℝ) : (prev - K) - (cur - K) = prev - cur := by ring

/-- **the GMM stopping test depends on the units** (relative change of a quantity defined up to an
additive constant): with threshold `0.01`, criterion `-2 → -1.9` does not stop, the same run observed in
units that shift the log-likelihood by `18` (e.g. three features in units 400 times smaller) does. -/
theorem C15_gmm_stop_rule_depends_on_units :
    ∃ thr prev cur K : ℝ, convStop (some thr) prev cur = false ∧ convStop (some thr) (prev - K) (cur - K) = true := by
  refine ⟨0.01, -2, -1.9, 18, ?_, ?_⟩
  · simp only [convStop, relChange, absv]
    norm_num
  · simp only [convStop, relChange, absv]
    norm_num

/-- **what stands between `GMMMachine.fit` and unit-independence is the stopping test alone** (D24): with
*any* stopping test that does not see a common shift of its two arguments — e.g. the absolute change
`|prev − cur| ≤ thr` — the whole fit (number of iterations included) is equivariant: same iteration count,
transformed model.  The relative test of the code is not such a test
(`C15_gmm_stop_rule_depends_on_units`). -/
theorem C15_ml_fit_equivariant_of_shift_invariant_stop (a b : Fin D → ℝ) (ha : ∀ d, a d ≠ 0) (cfg cfg' : MlCfg (C+1) D ℝ)
    (h1 : cfg'.updMeans = cfg.updMeans) (h2 : cfg'.updVars = cfg.updVars) (h3 : cfg'.updWeights = cfg.updWeights)
    (h4 : cfg'.countThr = cfg.countThr) (h5 : ∀ c d, cfg'.varFloor c d = a d * a d * cfg.varFloor c d)
    (hfl : ∀ c d, 0 < cfg.varFloor c d) (hthr : 0 < cfg.countThr) (p0 : Params (C+1) D ℝ) (hv0 : ∀ c d, 0 < p0.variances c d)
    (xs : List (Fin D → ℝ)) (hne : xs ≠ []) (stop : ℝ → ℝ → Bool)
    (hstop : ∀ K p c : ℝ, stop (p - K) (c - K) = stop p c) (fuel : ℕ) (c0 : ℝ) :
    emLoop (gmmMlIter cfg' (xs.map (affX a b))) stop fuel 0 (c0 - logJac a) (affP a b p0)
      = (affP a b (emLoop (gmmMlIter cfg xs) stop fuel 0 c0 p0).1, (emLoop (gmmMlIter cfg xs) stop fuel 0 c0 p0).2) :=
  emLoop_sim_inv (gmmMlIter cfg xs) (gmmMlIter cfg' (xs.map (affX a b))) stop stop (affP a b) (fun c => c - logJac a)
    (fun p => ∀ c d, 0 < p.variances c d) (fun p hv => mlMStep_var_pos cfg p _ _ hfl hv)
    (fun p hv => Prod.ext (gmmMlIter_aff a b ha cfg cfg' h1 h2 h3 h4 h5 hthr xs p hv)
      (C15_ml_criterion_shift a b ha cfg' p hv xs hne cfg))
    (hstop (logJac a)) fuel 0 c0 p0 hv0

/-- the absolute-change test is shift-invariant (so the theorem above applies to it) -/
theorem C15_abs_stop_shift_invariant (thr K p c : ℝ) :
    decide (absv ((p - K) - (c - K)) ≤ thr) = decide (absv (p - c) ≤ thr) := by
  rw [C15_abs_change_unit_free]

/-- **the k-means stopping test is unit-free**: a similarity with scale `s ≠ 0` multiplies every
distortion by `s²` (`C15_kmeans_scale_shift`), and the relative change does not see it -/
theorem C15_kmeans_stop_rule_unit_free (s : ℝ) (hs : s ≠ 0) (thr : Option ℝ) (prev cur : ℝ) :
    convStop thr (s * s * prev) (s * s * cur) = convStop thr prev cur :=
  convStop_scale (mul_self_ne_zero.mpr hs) thr prev cur
end StopRule

/-! ### Unit conversion of a machine's public history (parameters and floors given in any order) -/
section SetterHistory
variable {C D : ℕ}

/-- one public mutation of a `GMMMachine`, expressed in the new units: means `a μ + b`, variances and
floors `a² ·` -/
def affOp (a b : Fin D → ℝ) : GOp C D ℝ → GOp C D ℝ
  | .setWeights w => .setWeights w
  | .setMeans m => .setMeans (fun c d => a d * m c d + b d)
  | .setVariances v => .setVariances (fun c d => a d * a d * v c d)
  | .setThresholds t => .setThresholds (fun c d => a d * a d * t c d)
  | .mStep as => .mStep as
  | .clone => .clone

/-- assignments and copies (everything but a training step, which `C15_ml_equivariant` /
`C15_map_mstep_equivariant` cover) -/
def BobEM.GOp.isAssignment : GOp C D ℝ → Prop
  | .mStep _ => False
  | _ => True

/-- the visible state of `s'` is that of `s` in the new units -/
structure AffState (a b : Fin D → ℝ) (s s' : GState C D ℝ) : Prop where
  w : s'.weights = s.weights
  m : s'.means = s.means.map (fun m c d => a d * m c d + b d)
  v : s'.variances = s.variances.map (fun v c d => a d * a d * v c d)
  t : s'.thresholds = fun c d => a d * a d * s.thresholds c d

theorem affState_step (a b : Fin D → ℝ) (s s' : GState C D ℝ) (h : AffState a b s s') (op : GOp C D ℝ)
    (hop : op.isAssignment) : AffState a b (s.step op) (s'.step (affOp a b op)) := by
  have hmax : ∀ (t v : Fin C → Fin D → ℝ), (fun c d => max (a d * a d * t c d) (a d * a d * v c d))
      = fun c d => a d * a d * max (t c d) (v c d) := fun t v =>
    funext fun c => funext fun d => (mul_max_of_nonneg _ _ (mul_self_nonneg (a d))).symm
  -- the setter clamps at the floors in force, and these are related like the variances
  have hsetV : ∀ {s s' : GState C D ℝ}, AffState a b s s' → ∀ v,
      AffState a b (s.setVariances v) (s'.setVariances fun c d => a d * a d * v c d) := fun h v =>
    ⟨h.w, h.m, by simp only [GState.setVariances, Option.map_some, h.t, hmax], h.t⟩
  cases op with
  | setWeights w => exact ⟨rfl, h.m, h.v, h.t⟩
  | setMeans m => exact ⟨h.w, by simp only [GState.step, affOp, GState.setMeans, Option.map_some], h.v, h.t⟩
  | setVariances v => exact hsetV h v
  | setThresholds t =>
    have h1 : AffState a b { s with thresholds := t } { s' with thresholds := fun c d => a d * a d * t c d } :=
      ⟨h.w, h.m, h.v, rfl⟩
    cases hsv : s.variances with
    | none => simpa only [GState.step, affOp, GState.setThresholds, hsv, h.v, Option.map_none] using h1
    | some v0 =>
      simpa only [GState.step, affOp, GState.setThresholds, hsv, h.v, Option.map_some, hmax] using
        hsetV h1 fun c d => max (t c d) (v0 c d)
  | mStep as => exact hop.elim
  | clone => exact h

/-- **Floors follow the features, whatever the order of the assignments**: run any history of public
assignments (weights, means, variances, floors, copies — in any order, any number of times) in the
original units and the converted history in the new units; the resulting machines have the same
weights, means `a μ + b`, and **clamped** variances and floors `a² ·` — for every `a` (no sign or
non-zero condition is needed here) and every per-Gaussian, per-feature floor array -/
theorem C15_assignment_history_equivariant (a b : Fin D → ℝ) (s s' : GState C D ℝ) (h : AffState a b s s')
    (ops : List (GOp C D ℝ)) (hops : ∀ op ∈ ops, op.isAssignment) :
    AffState a b (s.run ops) (s'.run (ops.map (affOp a b))) := by
  induction ops generalizing s s' with
  | nil => simpa [GState.run] using h
  | cons op ops ih =>
    simp only [GState.run, List.map_cons, List.foldl_cons]
    exact ih _ _ (affState_step a b s s' h op (hops op (by simp))) (fun o ho => hops o (by simp [ho]))

/-- a fresh machine with scalar floor `f`, and a fresh machine whose floors are then set to `a² f` per
feature, are related: the starting point of `C15_assignment_history_equivariant` is reachable -/
theorem C15_fresh_machines_related (a b : Fin D → ℝ) (w : Fin C → ℝ) (f f' : ℝ) :
    AffState a b (GState.init w f) ((GState.init (D := D) w f').setThresholds (fun _ d => a d * a d * f)) :=
  ⟨rfl, rfl, rfl, rfl⟩

end SetterHistory

/-- non-vacuity of `C15_assignment_history_equivariant`: variances given first, then a per-feature floor
that clamps one of them (in centimetres vs metres on the second feature) -/
example :
    let a : Fin 2 → ℝ := ![1, 100]
    let ops : List (GOp 1 2 ℝ) := [.setMeans (fun _ _ => 0), .setVariances (fun _ d => ![4, 1] d), .setThresholds (fun _ _ => 2)]
    ((GState.init (fun _ => 1) 0).run ops).variances.map (fun v => (v 0 0, v 0 1)) = some (4, 2)
      ∧ ((((GState.init (D := 2) (fun _ => 1) 0).setThresholds (fun _ d => a d * a d * 0)).run (ops.map (affOp a ![0, 0]))).variances.map
          (fun v => (v 0 0, v 0 1))) = some (4, 20000) := by
  simp only [GState.run, GState.init, List.foldl_cons, List.foldl_nil, List.map_cons, List.map_nil, GState.step, affOp, GState.setMeans, GState.setVariances,
    GState.setThresholds, Option.map_some]
  norm_num [Matrix.cons_val_zero, Matrix.cons_val_one]
