import BobEM.Model.Rng
import BobEM.Props.C02
import BobEM.Props.C14
import BobEM.Lemmas.KMeansDescent
import BobEM.Lemmas.FAPerm
import BobEM.Lemmas.IVectorIdent

/-!
# C16 — A trained model is a function of the labelled sample multiset and the seed only

Model: `BobEM.Rng` (which generator a trainer draws from), and the training kernels of C02/C03/C05/C06/C09/C10/C14
(GMM ML and MAP, k-means, ISV/JFA through `Lemmas/FAPerm`, i-vector, WCCN, whitening) for the sample-order and
class-renaming clauses.
-/

open BobEM BobEM.Rng

/-- **History independence**: a fit with an integer `random_state` whose trainer reseeds the global
generator or uses a private one (or uses no randomness) has the same provenance after *any* two
histories of global seedings, global draws and earlier fits -/
theorem C16_history_independent (g₁ g₂ : G) (h₁ h₂ : List Op) (f : Fit) (s : ℕ)
    (hrs : f.randomState = some s) (hsrc : f.source ≠ .globalAsIs) :
    (runFit (h₁.foldl step g₁) f).1 = (runFit (h₂.foldl step g₂) f).1 := by
  unfold runFit
  cases hs : f.source <;> simp_all

/-- …whereas a trainer that draws from the global generator as it finds it (no `random_state`:
the i-vector extractor) does depend on the history — the clause is stated for seeded trainers only -/
theorem C16_global_as_is_depends : ∃ (g₁ g₂ : G) (f : Fit), f.source = .globalAsIs ∧ (runFit g₁ f).1 ≠ (runFit g₂ f).1 :=
  ⟨⟨some 1, 0⟩, ⟨some 2, 0⟩, ⟨0, 0, 0, none, .globalAsIs, 1⟩, rfl, by decide⟩

variable {C D K : ℕ}

/-- GMM ML training from explicit initial parameters: every iterate, the reported criterion and the
number of iterations are invariant under any permutation of the training samples -/
theorem C16_gmm_sample_order (cfg : MlCfg (C+1) D ℝ) (thr : Option ℝ) (fuel : ℕ) (p0 : Params (C+1) D ℝ)
    {xs ys : List (Fin D → ℝ)} (h : xs.Perm ys) :
    gmmMlFit cfg thr fuel p0 xs = gmmMlFit cfg thr fuel p0 ys := by
  have hstep : gmmMlIter cfg xs = gmmMlIter cfg ys := by
    funext p; simp only [gmmMlIter, C02_perm p h]
  unfold gmmMlFit; rw [hstep]

/-- k-means training from explicit initial centroids is invariant under permutations of the samples
(for any chunking of either order) -/
theorem C16_kmeans_sample_order (thr : Option ℝ) (fuel : ℕ) (c0 : ℝ) (cent0 : Fin (K+1) → Fin D → ℝ)
    (b₁ b₂ : List (List (Fin D → ℝ))) (h : b₁.flatten.Perm b₂.flatten) :
    kFit thr fuel c0 cent0 b₁ = kFit thr fuel c0 cent0 b₂ := by
  have hstep : kIter (K := K) b₁ = kIter b₂ := by
    funext cent
    rw [kIter_eq, kIter_eq, kEStep_perm cent h, h.length_eq]
  unfold kFit; rw [hstep]

/-- the MAP and ML M-steps see the data only through the statistics, which are order-invariant -/
theorem C16_stats_sample_order (p : Params (C+1) D ℝ) {xs ys : List (Fin D → ℝ)} (h : xs.Perm ys) :
    eStep p xs = eStep p ys := C02_perm p h

/-- WCCN: permuting the samples together with their labels leaves the fit unchanged -/
theorem C16_wccn_sample_order {N : ℕ} (chol : (n : ℕ) → (Fin n → Fin n → ℝ) → Fin n → Fin n → ℝ)
    (X : Fin N → Fin D → ℝ) (y : Fin N → ℤ) (classes : List ℤ) (σ : Equiv.Perm (Fin N)) :
    Lin.wccnFit chol (fun n => X (σ n)) (fun n => y (σ n)) classes = Lin.wccnFit chol X y classes :=
  congrArg (fun S => (⟨chol D (LinAlg.inv D S), fun _ => 0⟩ : Lin.Proj D ℝ))
    (scaledScatter_reindex X y σ id Function.injective_id (.of_eq (List.map_id _).symm))

/-- WCCN: renaming the classes by any injective map (in particular any permutation of the ids) and
enumerating them in any order leaves the fit unchanged -/
theorem C16_wccn_class_renaming {N : ℕ} (chol : (n : ℕ) → (Fin n → Fin n → ℝ) → Fin n → Fin n → ℝ)
    (X : Fin N → Fin D → ℝ) (y : Fin N → ℤ) (classes classes' : List ℤ) (f : ℤ → ℤ) (hf : Function.Injective f)
    (hperm : classes'.Perm (classes.map f)) :
    Lin.wccnFit chol X (fun n => f (y n)) classes' = Lin.wccnFit chol X y classes :=
  C14_wccn_label_invariance chol X y classes classes' f hf hperm

open BobEM.FA in
/-- **ISV training** gives the same U whether the classes are enumerated in another order (class ids
renamed by a permutation) and the sessions of each class arrive in another order -/
theorem C16_isv_sample_order_and_renaming {C D rU rV : ℕ} (M0 : Model C D rU rV ℝ) (cl cl' : List (List (St C D ℝ)))
    (h : SameSessions cl cl') (k : ℕ) : isvFit M0 cl k = isvFit M0 cl' k := by
  simp only [isvFit, stepIsv_same h]
#print axioms C16_isv_sample_order_and_renaming

open BobEM.FA in
/-- **JFA training** (V, then U, then D, `k` iterations each): same statement -/
theorem C16_jfa_sample_order_and_renaming {C D rU rV : ℕ} (M0 : Model C D rU rV ℝ) (cl cl' : List (List (St C D ℝ)))
    (h : SameSessions cl cl') (k : ℕ) : jfaFit M0 cl k = jfaFit M0 cl' k := by
  simp only [FA.jfaFit_spec, stepV_same h, finalizeV, finalizeU, ← List.map_prod_left_eq_zip, List.map_map, Function.comp_def]
  generalize iter (fun M => stepV M cl') k M0 = M1
  have hY : PermInv fun sts : List (St C D ℝ) => updateY M1 sts (zerosX sts.length) zeroZ :=
    fun s s' hs => updateY_zeros_perm hs M1 _
  simp only [stepU_same h _ hY]
  exact congrArg (iter · k _) (funext fun M => stepD_same h M hY fun s s' hs => by simp only [hY s s' hs])
#print axioms C16_jfa_sample_order_and_renaming

open BobEM.FA in
/-- non-vacuity: swapping two classes and the two sessions of one of them is a `SameSessions` pair -/
example (a b c : St 1 1 ℝ) : SameSessions [[a, b], [c]] [[c], [b, a]] :=
  ⟨[[b, a], [c]], List.Forall₂.cons (List.Perm.swap b a []) (List.Forall₂.cons (List.Perm.refl _) List.Forall₂.nil),
    List.Perm.swap [c] [b, a] []⟩

section IVOrder
variable {C D R : ℕ}

/-- **i-vector training** gives the same extractor for the same multiset of training statistics, in
whatever order they arrive and however they are split into partitions (with or without the covariance
update, any floor, any number of iterations) -/
theorem C16_ivector_sample_order (m0 : IV.Machine C D R ℝ) (parts parts' : List (List (IV.GStat C D ℝ)))
    (h : parts.flatten.Perm parts'.flatten) (updateSigma : Bool) (floor : ℝ) (k : ℕ) :
    IV.fit m0 parts updateSigma floor k = IV.fit m0 parts' updateSigma floor k := by
  induction k with
  | zero => rfl
  | succ k ih => rw [IV.fit, IV.fit, ih, IV.iterate_perm h]
end IVOrder

/-- **MAP training** sees the data only through order-invariant statistics: every iterate, and hence
whatever loop is run on them, is the same for any order of the samples -/
theorem C16_gmm_map_sample_order {C D : ℕ} (sq : ℝ → ℝ) (cfg : MapCfg (C+1) D ℝ) (ubm p0 : Params (C+1) D ℝ)
    {xs ys : List (Fin D → ℝ)} (h : xs.Perm ys) (c0 : ℝ) (k : ℕ) :
    traj (gmmMapIter sq cfg ubm xs) p0 c0 k = traj (gmmMapIter sq cfg ubm ys) p0 c0 k := by
  have hstep : gmmMapIter sq cfg ubm xs = gmmMapIter sq cfg ubm ys := by
    funext p; simp only [gmmMapIter, C02_perm p h]
  rw [hstep]

/-- **Whitening**: permuting the rows leaves the fit unchanged -/
theorem C16_whitening_sample_order {N D : ℕ} (chol : (n : ℕ) → (Fin n → Fin n → ℝ) → Fin n → Fin n → ℝ)
    (X : Fin N → Fin D → ℝ) (σ : Equiv.Perm (Fin N)) :
    Lin.whitenFit chol (fun n => X (σ n)) = Lin.whitenFit chol X := by
  have hmean : Lin.colMean (fun n => X (σ n)) = Lin.colMean X := by
    funext d
    simp only [Lin.colMean, sumFin_comp_equiv σ (fun n => X n d)]
  have hcov : Lin.covMat (fun n => X (σ n)) = Lin.covMat X := by
    funext a b
    simp only [Lin.covMat, hmean, sumFin_comp_equiv σ (fun n => (X n a - Lin.colMean X a) * (X n b - Lin.colMean X b))]
  simp only [Lin.whitenFit, hmean, hcov]
