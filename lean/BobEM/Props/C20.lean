import BobEM.Lemmas.KMeansDescent
import BobEM.Lemmas.Fold

/-!
# C20 — K-means assigns to the nearest centroid; cluster-derived GMM init is exact

Model: `BobEM.sqDist` / `sqDistDask`, `distances`, `assign`, `predict`, `vAccum`, `vReduce`,
`varsWeights`, `gmmInitFromKMeans` (`kmeans.py: get_centroids_distance, get_closest_centroid_index,
accumulate_indices_means_vars, reduce_indices_means_vars`; `gmm.py: initialize_gaussians`).
-/

open BobEM

variable {K D : ℕ}

/-- reported distances are the squared Euclidean distances: non-negative, the NumPy (`cdist`) and
Dask (per-centroid) forms coincide, one row per centroid and one column per sample -/
theorem C20_dist (cent : Fin (K+1) → Fin D → ℝ) (xs : List (Fin D → ℝ)) (k : Fin (K+1)) :
    (distances cent xs k).length = xs.length ∧
    (∀ i (h : i < xs.length), (distances cent xs k)[i]'(by simpa [distances] using h)
        = ∑ j, (xs[i] j - cent k j) * (xs[i] j - cent k j)) ∧
    (∀ x : Fin D → ℝ, 0 ≤ sqDist x (cent k)) ∧ (∀ x : Fin D → ℝ, sqDistDask x (cent k) = sqDist x (cent k)) :=
  ⟨List.length_map _, fun _ _ => (List.getElem_map _).trans (sqDist_eq _ _), fun x => sqDist_nonneg x _,
    fun x => sqDistDask_eq x _⟩

/-- the predicted label is the index of a nearest centroid — the first one (`np.argmin`) -/
theorem C20_argmin_nearest (cent : Fin (K+1) → Fin D → ℝ) (x : Fin D → ℝ) :
    (∀ k, sqDist x (cent (assign cent x)) ≤ sqDist x (cent k)) ∧
    (∀ k, k < assign cent x → sqDist x (cent (assign cent x)) < sqDist x (cent k)) :=
  ⟨fun k => assign_le cent x k, fun k hk => argminFin_first K (fun k => sqDist x (cent k)) k hk⟩

/-- a single sample and the same sample inside a batch get the same label -/
theorem C20_single_eq_batch (cent : Fin (K+1) → Fin D → ℝ) (xs : List (Fin D → ℝ)) (i : ℕ) (h : i < xs.length) :
    (predict cent xs)[i]'(by simpa [predict] using h) = (predict cent [xs[i]])[0]'(by simp [predict]) := by
  simp [predict]

theorem vAccum_append (cent : Fin (K+1) → Fin D → ℝ) (xs ys : List (Fin D → ℝ)) :
    vAccum cent (xs ++ ys) = (vAccum cent xs).add (vAccum cent ys) := by
  unfold vAccum VStats.add
  simp only [lsum_eq, List.map_append, List.sum_append, List.countP_append]

theorem vstats_zero_add (s : VStats K D ℝ) : VStats.zero.add s = s := by simp [VStats.add, VStats.zero]

theorem varsWeights_single (cent : Fin (K+1) → Fin D → ℝ) (xs : List (Fin D → ℝ)) :
    varsWeights cent [xs] = vReduce (vAccum cent xs) := congrArg vReduce (vstats_zero_add _)

/-- the accumulated statistics of any list of row blocks are those of the whole array -/
theorem C20_chunking_independent (cent : Fin (K+1) → Fin D → ℝ) (blocks : List (List (Fin D → ℝ))) :
    varsWeights cent blocks = varsWeights cent [blocks.flatten] := by
  rw [varsWeights_single, varsWeights, fold_add_flatten VStats.add VStats.zero (vAccum cent)
    (by simp [vAccum, VStats.zero, lsum_eq]) (vAccum_append cent)]

/-- the weights are the fractions of samples assigned to each cluster and sum to one -/
theorem C20_weights (cent : Fin (K+1) → Fin D → ℝ) (xs : List (Fin D → ℝ)) (hne : xs ≠ []) :
    (∀ k, (varsWeights cent [xs]).2 k = ((xs.countP fun x => assign cent x = k : ℕ) : ℝ) / xs.length) ∧
    ∑ k, (varsWeights cent [xs]).2 k = 1 := by
  have htot : ∑ k : Fin (K+1), ((xs.countP fun x => assign cent x = k : ℕ) : ℝ) = xs.length := by
    exact_mod_cast sum_countP_eq_length xs (assign cent)
  have hw : ∀ k, (varsWeights cent [xs]).2 k = ((xs.countP fun x => assign cent x = k : ℕ) : ℝ) / xs.length := fun k => by
    simp only [varsWeights_single, vReduce, vAccum, sumFin_eq, Transc.ofNat, htot]
  refine ⟨hw, ?_⟩
  rw [funext hw, ← Finset.sum_div, htot]
  exact div_self (Nat.cast_ne_zero.mpr (List.length_pos_iff.mpr hne).ne')

/-- the variances are the biased sample variances `(1/m) Σ (x − x̄)²` of the assigned samples (hence
non-negative), whatever the centroids' position relative to the data (shift invariance of the
accumulated form) -/
theorem C20_variances (cent : Fin (K+1) → Fin D → ℝ) (xs : List (Fin D → ℝ)) (k : Fin (K+1)) (j : Fin D)
    (hne : (xs.countP fun x => assign cent x = k) ≠ 0) :
    let w := fun x : Fin D → ℝ => if assign cent x = k then (1:ℝ) else 0
    let m : ℝ := ((xs.countP fun x => assign cent x = k : ℕ) : ℝ)
    let xbar := (xs.map fun x => w x * x j).sum / m
    (varsWeights cent [xs]).1 k j = (xs.map fun x => w x * ((x j - xbar) * (x j - xbar))).sum / m ∧
    0 ≤ (varsWeights cent [xs]).1 k j := by
  intro w m xbar
  have hW : (xs.map w).sum = m := sum_indicator_eq_countP xs _
  have hm : m ≠ 0 := Nat.cast_ne_zero.mpr hne
  have key := var_shift_invariant xs w (fun x => x j) (cent k j) (hW ▸ hm)
  rw [hW] at key
  have heq : (varsWeights cent [xs]).1 k j
      = (xs.map fun x => w x * ((x j - xbar) * (x j - xbar))).sum / m := by
    rw [← key]
    simp only [varsWeights_single, vReduce, vAccum, hne, if_false, lsum_eq, Transc.ofNat, w, ite_mul, one_mul, zero_mul]
    rfl
  refine ⟨heq, heq ▸ div_nonneg (List.sum_nonneg fun y hy => ?_) (Nat.cast_nonneg _)⟩
  obtain ⟨x, _, rfl⟩ := List.mem_map.mp hy
  exact mul_nonneg (by simp only [w]; split_ifs <;> norm_num) (mul_self_nonneg _)

/-- a GMM initialised from k-means starts from exactly these centroids and weights, and from these
variances clamped at its floors -/
theorem C20_gmm_init_exact (cent : Fin (K+1) → Fin D → ℝ) (blocks : List (List (Fin D → ℝ)))
    (floor : Fin (K+1) → Fin D → ℝ) :
    (gmmInitFromKMeans cent blocks floor).means = cent ∧
    (gmmInitFromKMeans cent blocks floor).weights = (varsWeights cent blocks).2 ∧
    (∀ k j, (gmmInitFromKMeans cent blocks floor).variances k j = max (floor k j) ((varsWeights cent blocks).1 k j)) ∧
    (∀ k j, floor k j ≤ (gmmInitFromKMeans cent blocks floor).variances k j) :=
  ⟨rfl, rfl, fun _ _ => rfl, fun _ _ => le_max_left _ _⟩
