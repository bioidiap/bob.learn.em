import BobEM.Model.Regroup
import BobEM.Lemmas.Tree
import BobEM.Props.C04
import BobEM.Model.FATrain
import BobEM.Lemmas.IVectorIdent

/-!
# C12 — Training from statistics is independent of bag partitioning and scheduling

Model: `BobEM.Regroup.prepare` (`_prepare_dask_input`), `BobEM.treeReduce` (the pairwise reduction of
`IVectorMachine.fit`), the per-class / per-partition E-steps of C09 / C10, `BobEM.Sched` for task
order and isolation.
-/

open BobEM BobEM.Regroup

/-- the inner loop over a concatenation is the loop over the first part followed by the loop over
the second, with the running index advanced -/
theorem innerLoop_append {σ : Type} (a b : List σ) (y : List ℕ) (i : ℕ) (acc : List (List σ)) :
    innerLoop (a ++ b) y i acc = innerLoop b y (i + a.length) (innerLoop a y i acc) := by
  induction a generalizing i acc with
  | nil => rfl
  | cons x a ih => rw [List.cons_append, innerLoop, innerLoop, ih, List.length_cons, Nat.add_assoc, Nat.add_comm 1]

theorem outerLoop_eq_inner {σ : Type} (blocks : List (List σ)) (y : List ℕ) (i : ℕ) (acc : List (List σ)) :
    outerLoop blocks y i acc = innerLoop blocks.flatten y i acc := by
  induction blocks generalizing i acc with
  | nil => rfl
  | cons b bs ih => rw [outerLoop, List.flatten_cons, innerLoop_append, ih]

/-- **Regrouping**: for any partition of the bag into consecutive blocks (any number, any lengths —
single-element and empty partitions included — mixing classes freely) and any label sequence, the
per-class lists are those of the un-partitioned list: they do not depend on the partitioning -/
theorem C12_regroup {σ : Type} (partitions : List (List σ)) (y : List ℕ) (K : ℕ) :
    prepare partitions y K = prepare [partitions.flatten] y K := by
  simp only [prepare, outerLoop_eq_inner, List.flatten_cons, List.flatten_nil, List.append_nil]

/-- consequently the whole JFA / ISV training on the regrouped bag does not depend on the partitioning -/
theorem C12_fa_partition_independent {C D rU rV : ℕ} (M : FA.Model C D rU rV ℝ)
    (partitions : List (List (FA.St C D ℝ))) (y : List ℕ) (K k : ℕ) :
    FA.jfaFit M (prepare partitions y K) k = FA.jfaFit M (prepare [partitions.flatten] y K) k ∧
    FA.isvFit M (prepare partitions y K) k = FA.isvFit M (prepare [partitions.flatten] y K) k := by
  rw [C12_regroup]; exact ⟨rfl, rfl⟩

/-- **Tree reduction**: the pairwise reduction (element `i` with element `⌊n/2⌋ + i`, the odd last one
carried over) of any non-empty list ends with the single total: every partition's contribution
enters exactly once, for every number of partitions (both parities at every level) -/
theorem C12_tree_reduce {M : Type} [AddCommMonoid M] (l : List M) (hne : l ≠ []) :
    treeReduce (· + ·) l.length l = [l.sum] :=
  treeReduce_eq_sum l.length l hne (Nat.le_succ _)

/-- one i-vector training iteration from a bag: per-partition E-steps, pairwise reduction, M-step —
equals the iteration on the in-memory list, for every partitioning -/
theorem C12_ivector_partition_independent {C D R : ℕ} (m : IV.Machine C D R ℝ)
    (parts : List (List (IV.GStat C D ℝ))) (hne : parts ≠ []) :
    treeReduce (· + ·) parts.length (parts.map (IV.eStep m)) = [IV.eStep m parts.flatten] := by
  rw [IV.eStep_flatten, ← C12_tree_reduce _ (mt List.map_eq_nil_iff.mp hne), List.length_map]

/-- order and isolation: the generic determinacy theorems of C04 apply to the bag graphs as well
(the recorded graphs are run through the same discipline check) -/
theorem C12_order_and_isolation {Val : Type} (g : List Sched.TaskEff) (sem : ℕ → RWTask ℕ Val)
    (hsem : ∀ t ∈ g, (sem t.id).reads = {l | l ∈ t.reads} ∧ (sem t.id).writes = {l | l ∈ t.writes})
    (hd : Sched.disciplined g = true)
    (l1 l2 : List ℕ) (hp : l1.Perm l2) (hnd : l1.Nodup)
    (h1 : l1.Pairwise fun a b => ¬ Sched.reach g g.length b a = true)
    (h2 : l2.Pairwise fun a b => ¬ Sched.reach g g.length b a = true) (s : ℕ → Val) :
    exec (runOf g sem) l1 s = exec (runOf g sem) l2 s :=
  C04_order_independent g sem hsem hd l1 l2 hp hnd h1 h2 s

/-- non-vacuity: five labelled items in partitions of sizes 2, 0, 1, 2 with unsorted labels -/
example : prepare [["a", "b"], [], ["c"], ["d", "e"]] [1, 0, 1, 1, 0] 2 = [["b", "e"], ["a", "c", "d"]] := by decide

/-- **every partition's contribution enters each M-step exactly once**, whatever the shape of the
reduction (pairwise as in `IVectorMachine.fit`, wider, uneven): the statement of
`C04_blocks_exactly_once` for the recorded bag graphs, whose E-step tasks are the `workers` -/
theorem C12_exactly_once {M : Type} [AddCommMonoid M] (g : List Sched.TaskEff) (final : ℕ) (workers : List ℕ)
    (result : ℕ → M) (ht : Sched.topoOrdered g = true) (he : Sched.exactlyOnce g final workers = true) (fuel : ℕ)
    (hf : g.length < fuel) :
    dagVal (Sched.depsOf g) (fun x => workers.contains x) result fuel final = ∑ w ∈ workers.toFinset, result w :=
  exactlyOnce_sound g final workers result ht he fuel hf

/-- a worker without a path to the M-step is absent from what the M-step receives: replacing its
statistics by anything else changes nothing (how a dropped partition shows) -/
theorem C12_dropped_partition_ignored {M : Type} [AddCommMonoid M] (g : List Sched.TaskEff) (final : ℕ) (workers : List ℕ)
    (result result' : ℕ → M) (w0 : ℕ) (h0 : Sched.pathCount g workers w0 final = 0)
    (hsame : ∀ w, w ≠ w0 → result w = result' w) :
    dagVal (Sched.depsOf g) (fun x => workers.contains x) result (g.length + 1) final
      = dagVal (Sched.depsOf g) (fun x => workers.contains x) result' (g.length + 1) final :=
  dagVal_dropped_worker_ignored _ _ result result' workers.toFinset (by intro t; simp) _ final w0 h0 hsame

/-- **how many levels the pairwise reduction needs**: after `k` levels `⌈n / 2^k⌉` partial sums are left
and their total is still the total, so a single statistic is left exactly when `n ≤ 2^k`. The code's
`while len(stats) > 1` runs until then; a depth fixed in advance must be at least `⌈log2 n⌉` -/
theorem C12_tree_levels_needed {M : Type} [AddCommMonoid M] (l : List M) (hne : l ≠ []) (k : ℕ) :
    ((treeReduce (· + ·) k l).length = 1 ↔ l.length ≤ 2 ^ k) ∧ (treeReduce (· + ·) k l).sum = l.sum :=
  ⟨treeReduce_single_iff k l hne, treeReduce_sum k l⟩

/-- five partitions need three levels: after two (`round (log2 5)`) two partial sums are left, and
"the first of them" lacks the fifth partition -/
example : (treeReduce (· + ·) 2 [1, 2, 3, 4, 5] : List ℕ) = [10, 5] ∧ (treeReduce (· + ·) 3 [1, 2, 3, 4, 5] : List ℕ) = [15] := by
  decide
