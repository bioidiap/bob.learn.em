import BobEM.Lemmas.GmmDensity
import BobEM.Lemmas.Integral
import BobEM.Lemmas.GmmEM
import BobEM.Lemmas.Relabel

/-!
# C01 — GMM log-likelihood is the log of a normalised diagonal-Gaussian mixture density

Model: `BobEM.lwl`, `BobEM.logaddexp`, `BobEM.logaddexpReduce`, `BobEM.logLik`
(`gmm.py: log_weighted_likelihood, logaddexp_reduce, log_likelihood`).
All statements are for every number of components `C+1`, every dimension `D`, all parameters with
positive weights and variances, all samples.
-/

open BobEM ProbabilityTheory
open scoped NNReal

variable {C D : ℕ}

/-- C01: the model's log-likelihood is the log of the mixture of products of Mathlib's normal
densities (weights and variances positive). -/
theorem C01_loglik_eq_log_mixture (p : Params (C+1) D ℝ) (x : Fin D → ℝ)
    (v : Fin (C+1) → Fin D → ℝ≥0) (hvne : ∀ c d, v c d ≠ 0) (hv : ∀ c d, p.variances c d = v c d)
    (hw : ∀ c, 0 < p.weights c) :
    logLik p x = Real.log (∑ c, p.weights c * ∏ d, gaussianPDFReal (p.means c d) (v c d) (x d)) := by
  rw [← exp_logLik_eq p x v hvne hv hw, Real.log_exp]

/-- the reported value is `log Σ_c w_c Π_d N(x_d; μ_cd, v_cd)` with Mathlib's normal density -/
theorem C01_loglik_is_log_mixture (p : Params (C+1) D ℝ) (x : Fin D → ℝ)
    (v : Fin (C+1) → Fin D → ℝ≥0) (hvne : ∀ c d, v c d ≠ 0) (hv : ∀ c d, p.variances c d = v c d)
    (hw : ∀ c, 0 < p.weights c) :
    logLik p x = Real.log (∑ c, p.weights c * ∏ d, gaussianPDFReal (p.means c d) (v c d) (x d)) :=
  C01_loglik_eq_log_mixture p x v hvne hv hw

/-- the per-component weighted log-likelihoods log-sum-exp to the log-likelihood -/
theorem C01_lwl_lse (p : Params (C+1) D ℝ) (x : Fin D → ℝ) :
    Real.log (∑ c, Real.exp (lwl p x c)) = logLik p x :=
  (logLik_eq p x).symm

/-- the implied density `exp (logLik p ·)` integrates to one over `ℝ^D` when the weights sum to one -/
theorem C01_density_integral_one (p : Params (C+1) D ℝ)
    (v : Fin (C+1) → Fin D → ℝ≥0) (hvne : ∀ c d, v c d ≠ 0) (hv : ∀ c d, p.variances c d = v c d)
    (hw : ∀ c, 0 < p.weights c) (hsum : ∑ c, p.weights c = 1) :
    ∫ x : Fin D → ℝ, Real.exp (logLik p x) = 1 := by
  simp only [exp_logLik_eq p _ v hvne hv hw]
  exact mixture_integral_one p.weights p.means v hvne hsum

/-- a batch is evaluated row by row, and evaluating row blocks and concatenating is evaluating the
concatenation (the model of the NumPy batch and of the row-chunked Dask path) -/
theorem C01_chunked_eq_batch (p : Params (C+1) D ℝ) (blocks : List (List (Fin D → ℝ))) :
    (blocks.map fun b => b.map (logLik p)).flatten = blocks.flatten.map (logLik p) := by
  rw [List.map_flatten]

theorem C01_batch_eq_single (p : Params (C+1) D ℝ) (xs : List (Fin D → ℝ)) (i : Fin xs.length) :
    (xs.map (logLik p))[i.1]'(by simp) = logLik p xs[i.1] :=
  List.getElem_map _

/-- the real-number fact behind "finite in the tails": for every shift `m` the value is
`m + log Σ exp (a_c − m)` (so the computation can be anchored at the maximum), and it lies between
the largest component term and that plus `log (C+1)`. -/
theorem C01_shift (p : Params (C+1) D ℝ) (x : Fin D → ℝ) (m : ℝ) :
    logLik p x = m + Real.log (∑ c, Real.exp (lwl p x c - m)) := by
  rw [logLik_eq]
  have : ∑ c, Real.exp (lwl p x c) = Real.exp m * ∑ c, Real.exp (lwl p x c - m) := by
    rw [Finset.mul_sum]; refine Finset.sum_congr rfl fun c _ => ?_
    rw [← Real.exp_add]; ring_nf
  rw [this, Real.log_mul (Real.exp_pos _).ne' (sum_exp_pos _).ne',
    Real.log_exp]

theorem log_sum_exp_subset_le {κ : Type} [Fintype κ] (a : κ → ℝ) (S : Finset κ) (hS : S.Nonempty) :
    Real.log (∑ c ∈ S, Real.exp (a c)) ≤ Real.log (∑ c, Real.exp (a c)) :=
  Real.log_le_log (Finset.sum_pos (fun _ _ => Real.exp_pos _) hS)
    (Finset.sum_le_sum_of_subset_of_nonneg (Finset.subset_univ S) fun _ _ _ => (Real.exp_pos _).le)

theorem C01_tail_bounds (p : Params (C+1) D ℝ) (x : Fin D → ℝ) (c : Fin (C+1)) :
    lwl p x c ≤ logLik p x ∧
      ((∀ k, lwl p x k ≤ lwl p x c) → logLik p x ≤ lwl p x c + Real.log ((C : ℝ) + 1)) := by
  rw [logLik_eq]
  have hpos : 0 < ∑ k, Real.exp (lwl p x k) := sum_exp_pos _
  constructor
  · have h := log_sum_exp_subset_le (lwl p x) {c} (Finset.singleton_nonempty c)
    rwa [Finset.sum_singleton, Real.log_exp] at h
  · intro hmax
    have : ∑ k, Real.exp (lwl p x k) ≤ ((C : ℝ) + 1) * Real.exp (lwl p x c) := by
      calc ∑ k, Real.exp (lwl p x k) ≤ ∑ _k : Fin (C+1), Real.exp (lwl p x c) :=
            Finset.sum_le_sum fun k _ => Real.exp_le_exp.mpr (hmax k)
        _ = ((C : ℝ) + 1) * Real.exp (lwl p x c) := by
            rw [Finset.sum_const, Finset.card_univ, Fintype.card_fin, nsmul_eq_mul, Nat.cast_add, Nat.cast_one]
    calc Real.log (∑ k, Real.exp (lwl p x k)) ≤ Real.log (((C : ℝ) + 1) * Real.exp (lwl p x c)) :=
          Real.log_le_log hpos this
      _ = lwl p x c + Real.log ((C : ℝ) + 1) := by
          rw [Real.log_mul (Nat.cast_add_one_pos C).ne' (Real.exp_pos _).ne', Real.log_exp, add_comm]

/-- non-vacuity: a concrete two-component, one-feature machine meets the hypotheses -/
example : ∃ (p : Params 2 1 ℝ) (v : Fin 2 → Fin 1 → ℝ≥0), (∀ c d, v c d ≠ 0) ∧ (∀ c d, p.variances c d = v c d)
    ∧ (∀ c, 0 < p.weights c) ∧ ∑ c, p.weights c = 1 :=
  ⟨{ weights := fun _ => 1/2, means := fun c _ => c, variances := fun _ _ => 2 }, fun _ _ => 2,
    by intro c d; norm_num, by intro c d; norm_num, by intro c; norm_num, by norm_num [Fin.sum_univ_two]⟩

/-- **tied components both count**: two different components always contribute both of their terms — in
particular, when they are exactly tied at the maximum (a duplicated component, a sample on the
symmetry plane of a mirror pair) the log-likelihood is at least the common term plus `log 2`; a
log-sum-exp that counts "the maximum" once is not the mixture density -/
theorem C01_tied_components_both_count (p : Params (C+1) D ℝ) (x : Fin D → ℝ) (c₁ c₂ : Fin (C+1)) (hne : c₁ ≠ c₂) :
    Real.log (Real.exp (lwl p x c₁) + Real.exp (lwl p x c₂)) ≤ logLik p x ∧
      (lwl p x c₁ = lwl p x c₂ → lwl p x c₁ + Real.log 2 ≤ logLik p x) := by
  rw [logLik_eq]
  have h := log_sum_exp_subset_le (lwl p x) {c₁, c₂} (Finset.insert_nonempty _ _)
  rw [Finset.sum_pair hne] at h
  refine ⟨h, fun heq => le_trans (le_of_eq ?_) h⟩
  rw [← heq, ← two_mul, Real.log_mul two_ne_zero (Real.exp_pos _).ne', Real.log_exp, add_comm]

/-- the numbering of the components is immaterial: relabelling weights, means and variances together
leaves every sample's log-likelihood unchanged (no component — the first one of the `logaddexp`
reduction in particular — is treated differently), and the statistics of the relabelled machine are
the relabelled statistics -/
theorem C01_component_order_irrelevant (p : Params (C+1) D ℝ) (σ : Equiv.Perm (Fin (C+1))) (x : Fin D → ℝ)
    (xs : List (Fin D → ℝ)) :
    logLik (p.relabel σ) x = logLik p x ∧
    (∀ c, resp (p.relabel σ) x c = resp p x (σ c)) ∧
    (eStep (p.relabel σ) xs).ll = (eStep p xs).ll ∧
    (∀ c, (eStep (p.relabel σ) xs).n c = (eStep p xs).n (σ c)) ∧
    (∀ c d, (eStep (p.relabel σ) xs).sumPx c d = (eStep p xs).sumPx (σ c) d) ∧
    (∀ c d, (eStep (p.relabel σ) xs).sumPxx c d = (eStep p xs).sumPxx (σ c) d) := by
  rw [eStep_relabel]
  refine ⟨logLik_relabel p σ x, fun c => ?_, rfl, fun _ => rfl, fun _ _ => rfl, fun _ _ => rfl⟩
  rw [resp, lwl_relabel, logLik_relabel, resp]
